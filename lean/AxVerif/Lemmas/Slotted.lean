/- Lemmas about slotted-page accounting (Model/Slotted.lean). Core Lean only. -/
import AxVerif.Model.Slotted
namespace AxVerif.Slotted

def Apart (a b : Nat × Nat) : Prop := a.1 + a.2 ≤ b.1 ∨ b.1 + b.2 ≤ a.1

structure Wf (p : SPage) : Prop where
  cells : ∀ c ∈ p.slots, p.fsp ≤ c.1 ∧ c.1 + c.2 ≤ p.cap ∧ c.1 % 8 = 0 ∧ c.2 % 8 = 0 ∧ 0 < c.2
  disjoint : p.slots.Pairwise Apart
  account : p.free + sumStorage p.slots = p.cap
  room : slotSize * p.slots.length ≤ p.fsp
  top : p.fsp ≤ p.cap

theorem apart_iff (a b : Nat × Nat) : apart a b = true ↔ Apart a b := by
  simp [apart, Apart]

theorem disjointB_pairwise {l : List (Nat × Nat)} (h : disjointB l = true) : l.Pairwise Apart := by
  fun_induction disjointB l with
  | case1 => exact List.Pairwise.nil
  | case2 c cs ih =>
    rw [Bool.and_eq_true, List.all_eq_true] at h
    exact List.Pairwise.cons (fun b hb => (apart_iff c b).mp (h.1 b hb)) (ih h.2)

theorem wfB_sound {p : SPage} (h : wfB p = true) : Wf p := by
  simp only [wfB, Bool.and_eq_true, List.all_eq_true, decide_eq_true_eq] at h
  obtain ⟨⟨⟨⟨hc, hd⟩, ha⟩, hr⟩, ht⟩ := h
  refine ⟨?_, disjointB_pairwise hd, ha, hr, ht⟩
  intro c hcm
  have := hc c hcm
  simp only [cellOk, Bool.and_eq_true, decide_eq_true_eq] at this
  obtain ⟨⟨⟨⟨h1, h2⟩, h3⟩, h4⟩, h5⟩ := this
  exact ⟨h1, h2, h3, h4, h5⟩

theorem sumStorage_append (a b : List (Nat × Nat)) : sumStorage (a ++ b) = sumStorage a + sumStorage b := by
  induction a with
  | nil => simp only [List.nil_append, sumStorage, Nat.zero_add]
  | cons c cs ih => simp only [List.cons_append, sumStorage, ih, Nat.add_assoc]

/-! `remove`, `replace` and `insert` all change the slot array at one position: the page has `a ++ c :: b` where the
    other page has `a ++ b`. -/

theorem eq_take_cons_drop {l : List (Nat × Nat)} {i : Nat} {c : Nat × Nat} (h : l[i]? = some c) :
    l = l.take i ++ c :: l.drop (i + 1) := by
  obtain ⟨hi, rfl⟩ := List.getElem?_eq_some_iff.mp h
  rw [← List.drop_eq_getElem_cons hi, List.take_append_drop]

theorem Apart.symm {a b : Nat × Nat} (h : Apart a b) : Apart b a := Or.symm h

theorem room_of_succ {n fsp : Nat} (h : slotSize * (n + 1) ≤ fsp) : slotSize * n ≤ fsp :=
  Nat.le_trans (Nat.mul_le_mul_left _ (Nat.le_succ _)) h

theorem add_le_of_le {a n m x : Nat} (h : n ≤ m) (hx : a + m ≤ x) : a + n ≤ x :=
  Nat.le_trans (Nat.add_le_add_left h _) hx

theorem wf_middle {cap fsp free : Nat} {a b : List (Nat × Nat)} {c : Nat × Nat} :
    Wf ⟨cap, a ++ c :: b, fsp, free⟩ ↔
      Wf ⟨cap, a ++ b, fsp, free + storage c.2⟩ ∧
        (fsp ≤ c.1 ∧ c.1 + c.2 ≤ cap ∧ c.1 % 8 = 0 ∧ c.2 % 8 = 0 ∧ 0 < c.2) ∧
        (∀ x ∈ a ++ b, Apart c x) ∧ slotSize * ((a ++ b).length + 1) ≤ fsp := by
  have hsum : free + sumStorage (a ++ c :: b) = free + storage c.2 + sumStorage (a ++ b) := by
    simp only [sumStorage_append, sumStorage, Nat.add_assoc, Nat.add_left_comm]
  have hlen : (a ++ c :: b).length = (a ++ b).length + 1 := by
    simp only [List.length_append, List.length_cons, Nat.add_assoc]
  have hmem : ∀ x, x ∈ a ++ c :: b ↔ x = c ∨ x ∈ a ++ b := by
    intro x
    simp only [List.mem_append, List.mem_cons]
    exact or_left_comm
  constructor
  · intro ⟨hcells, hdis, hacc, hroom, htop⟩
    replace hroom : slotSize * ((a ++ b).length + 1) ≤ fsp := hlen ▸ hroom
    rw [List.pairwise_middle Apart.symm, List.pairwise_cons] at hdis
    exact ⟨⟨fun x hx => hcells x ((hmem x).mpr (Or.inr hx)), hdis.2, hsum ▸ hacc,
        room_of_succ hroom, htop⟩,
      hcells c ((hmem c).mpr (Or.inl rfl)), hdis.1, hroom⟩
  · intro ⟨⟨hcells, hdis, hacc, _, htop⟩, hc, hap, hroom⟩
    refine ⟨?_, ?_, hsum ▸ hacc, hlen ▸ hroom, htop⟩
    · intro x hx
      rcases (hmem x).mp hx with rfl | hx
      · exact hc
      · exact hcells x hx
    · rw [List.pairwise_middle Apart.symm, List.pairwise_cons]
      exact ⟨hap, hdis⟩

theorem Wf.lower {cap fsp fsp' free : Nat} {l : List (Nat × Nat)} (hw : Wf ⟨cap, l, fsp, free⟩) (h : fsp' ≤ fsp)
    (hroom : slotSize * l.length ≤ fsp') : Wf ⟨cap, l, fsp', free⟩ :=
  ⟨fun c hc => ⟨Nat.le_trans h (hw.cells c hc).1, (hw.cells c hc).2⟩, hw.disjoint, hw.account, hroom,
    Nat.le_trans h hw.top⟩

theorem removeSlot_wf {p q : SPage} {idx : Nat} (hw : Wf p) (h : removeSlot p idx = some q) : Wf q := by
  obtain ⟨cap, slots, fsp, free⟩ := p
  simp only [removeSlot] at h
  split at h
  · cases h
  · next c hc =>
    cases h
    rw [eq_take_cons_drop hc] at hw
    rw [List.eraseIdx_eq_take_drop_succ]
    exact (wf_middle.mp hw).1

theorem replaceShrink_wf {p q : SPage} {idx n : Nat} (hw : Wf p) (h : replaceShrink Defects.none p idx n = some q) :
    Wf q := by
  obtain ⟨cap, slots, fsp, free⟩ := p
  simp only [replaceShrink, Defects.none, Bool.false_eq_true, if_false] at h
  split at h
  · cases h
  · next c hc =>
    split at h
    · next hcond =>
      cases h
      have hi : idx < slots.length := (List.getElem?_eq_some_iff.mp hc).1
      rw [eq_take_cons_drop hc] at hw
      -- take the cell out, put the shrunken cell back at the same offset
      obtain ⟨hrest, hcell, hap, hroom⟩ := wf_middle.mp hw
      show Wf ⟨cap, slots.set idx (c.1, n), fsp, free + (c.2 - n)⟩
      rw [List.set_eq_take_append_cons_drop, if_pos hi]
      refine wf_middle.mpr ⟨?_, ?_, ?_, hroom⟩
      · have : free + (c.2 - n) + storage n = free + storage c.2 := by
          show free + (c.2 - n) + (n + slotSize) = free + (c.2 + slotSize)
          rw [Nat.add_assoc, ← Nat.add_assoc (c.2 - n), Nat.sub_add_cancel hcond.1]
        rw [this]
        exact hrest
      · exact ⟨hcell.1, add_le_of_le hcond.1 hcell.2.1, hcell.2.2.1, hcond.2.2, hcond.2.1⟩
      · intro x hx
        exact (hap x hx).imp_left (add_le_of_le hcond.1)
    · cases h

theorem room_after_insert {hdr len size fsp : Nat} (h : storage size ≤ fsp - (hdr + slotSize * len)) :
    slotSize * (len + 1) ≤ fsp - size := by
  unfold storage slotSize at *
  omega

theorem insertAt_wf {hdr : Nat} {p q : SPage} {idx size : Nat} (hw : Wf p) (h : insertAt hdr p idx size = some q) :
    Wf q := by
  obtain ⟨cap, slots, fsp, free⟩ := p
  simp only [insertAt] at h
  split at h
  · next hcond =>
    cases h
    obtain ⟨-, hgap, hfree, hfsp, hal, hoff, hpos⟩ := hcond
    show Wf ⟨cap, slots.take idx ++ (fsp - size, size) :: slots.drop idx, fsp - size, free - storage size⟩
    have hroom : slotSize * (slots.length + 1) ≤ fsp - size := room_after_insert hgap
    refine wf_middle.mpr ⟨?_, ?_, ?_, ?_⟩
    · rw [List.take_append_drop, Nat.sub_add_cancel hfree]
      exact hw.lower (Nat.sub_le ..) (room_of_succ hroom)
    · exact ⟨Nat.le_refl _, (Nat.sub_add_cancel hfsp).symm ▸ hw.top, hoff, hal, hpos⟩
    · -- the new cell ends where the old cells begin
      rw [List.take_append_drop]
      intro x hx
      exact Or.inl ((Nat.sub_add_cancel hfsp).symm ▸ (hw.cells x hx).1)
    · rw [List.take_append_drop]
      exact hroom
  · cases h

end AxVerif.Slotted
