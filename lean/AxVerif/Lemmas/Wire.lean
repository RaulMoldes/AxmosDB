/-
  Lemmas for C20.  Every field type is read back from what was written in front of anything that follows
  (`read (write x ++ rest) = ok (x, rest)`), so the round trips compose them constructor by constructor, and
  hold with anything behind the message; the version check is separated from the dispatch on the opcode once,
  for all messages.
-/
import AxVerif.Model.Wire
import AxVerif.Lemmas.Bytes
namespace AxVerif.Wire
open AxVerif

def StrOk (s : Bytes) : Prop := ValidStr s ∧ s.length < 2^32
instance (s : Bytes) : Decidable (StrOk s) := inferInstanceAs (Decidable (ValidStr s ∧ s.length < 2^32))

def Params.Wf (P : Params) : Prop := P.protocolVersion < 256 ∧ P.maxMessageSize < 2^32
instance (P : Params) : Decidable P.Wf := inferInstanceAs (Decidable (P.protocolVersion < 256 ∧ P.maxMessageSize < 2^32))

/-- Requests a Rust `Request` value can be: strings are valid UTF-8 shorter than 4 GiB. -/
def WfReq : Request → Prop
  | .create p | .open_ p | .sql p | .explain p => StrOk p
  | _ => True

/-- Responses with valid strings, fewer than 2^32 columns and rows, and rectangular data: the shape
    `query_result_to_response` (server binary) is expected to build; that it does is a hypothesis here, not a theorem. -/
def WfResp : Response → Prop
  | .ok m | .error m | .ddl m | .explain m => StrOk m
  | .rows cols data =>
    cols.length < 2^32 ∧ data.length < 2^32 ∧ (∀ c ∈ cols, StrOk c) ∧
    (∀ r ∈ data, r.length = cols.length) ∧ (∀ r ∈ data, ∀ s ∈ r, StrOk s)
  | _ => True

theorem readString_writeString (s rest : Bytes) (h : StrOk s) :
    readString (writeString s ++ rest) = .ok (s, rest) := by
  unfold readString writeString
  rw [List.append_assoc, take32_le32 _ _ h.2]
  simp only [List.length_append, Nat.not_lt.mpr (Nat.le_add_right _ _), if_false, List.take_left', List.drop_left',
    show lossy s = s from h.1]

theorem readString1_writeString (s rest : Bytes) (h : StrOk s) :
    readString1 (writeString s ++ rest) = .ok s := by
  simp only [readString1, readString_writeString s rest h]

theorem readStrings_flatten (ss : List Bytes) (rest : Bytes) (h : ∀ s ∈ ss, StrOk s) :
    readStrings ss.length ((ss.map writeString).flatten ++ rest) = .ok (ss, rest) := by
  induction ss with
  | nil => rfl
  | cons s ss ih =>
    simp only [List.map_cons, List.flatten_cons, List.length_cons, readStrings, List.append_assoc,
      readString_writeString s _ (h s List.mem_cons_self), ih fun t ht => h t (List.mem_cons_of_mem _ ht)]

theorem readRows_flatten (n : Nat) (data : List (List Bytes)) (rest : Bytes)
    (hlen : ∀ r ∈ data, r.length = n) (h : ∀ r ∈ data, ∀ s ∈ r, StrOk s) :
    readRows n data.length ((data.map (fun r => (r.map writeString).flatten)).flatten ++ rest)
      = .ok (data, rest) := by
  induction data with
  | nil => rfl
  | cons r rs ih =>
    have hr := readStrings_flatten r ((rs.map fun r => (r.map writeString).flatten).flatten ++ rest) (h r List.mem_cons_self)
    rw [hlen r List.mem_cons_self] at hr
    simp only [List.map_cons, List.flatten_cons, List.length_cons, readRows, List.append_assoc, hr,
      ih (fun t ht => hlen t (List.mem_cons_of_mem _ ht)) fun t ht => h t (List.mem_cons_of_mem _ ht)]

/-- the payload of a `Rows` response, as `Response.encode` lays it out -/
theorem decodeRows_encode (cols : List Bytes) (data : List (List Bytes)) (rest : Bytes)
    (hc : cols.length < 2^32) (hd : data.length < 2^32) (hcs : ∀ c ∈ cols, StrOk c)
    (hrect : ∀ r ∈ data, r.length = cols.length) (hss : ∀ r ∈ data, ∀ s ∈ r, StrOk s) :
    decodeRows (le32 cols.length ++ (cols.map writeString).flatten ++ le32 data.length ++
      (data.map (fun r => (r.map writeString).flatten)).flatten ++ rest) = .ok (.rows cols data) := by
  simp only [decodeRows, List.append_assoc, take32_le32 _ _ hc, readStrings_flatten cols _ hcs, take32_le32 _ _ hd,
    readRows_flatten _ data rest hrect hss]

theorem readMessage_frame (P : Params) (hP : P.maxMessageSize < 2^32) (d rest : Bytes) (h : d.length ≤ P.maxMessageSize) :
    readMessage P (le32 d.length ++ d ++ rest) = .ok (d, rest) := by
  unfold readMessage
  rw [List.append_assoc, take32_le32 _ _ (Nat.lt_of_le_of_lt h hP)]
  simp only [Nat.not_lt.mpr h, List.length_append, Nat.not_lt.mpr (Nat.le_add_right _ _), if_false, List.take_left',
    List.drop_left']

/-- every accepted frame uses up one unit of fuel; at the end of the stream `read_exact` fails -/
theorem readAllFuel_frames (P : Params) (hP : P.maxMessageSize < 2^32) (ds : List Bytes) (fuel : Nat)
    (h : ∀ d ∈ ds, d.length ≤ P.maxMessageSize) (hf : ds.length < fuel) :
    readAllFuel P fuel ((ds.map (fun d => le32 d.length ++ d)).flatten) = (ds, .io) := by
  induction ds generalizing fuel with
  | nil =>
    cases fuel with
    | zero => exact absurd hf (Nat.lt_irrefl 0)
    | succ n => rfl
  | cons d ds ih =>
    cases fuel with
    | zero => exact absurd hf (Nat.not_lt_zero _)
    | succ n =>
      simp only [List.map_cons, List.flatten_cons, readAllFuel, readMessage_frame P hP d _ (h d List.mem_cons_self),
        ih n (fun x hx => h x (List.mem_cons_of_mem _ hx)) (Nat.lt_of_succ_lt_succ hf)]

theorem length_le_frames (ds : List Bytes) : ds.length ≤ ((ds.map (fun d => le32 d.length ++ d)).flatten).length := by
  induction ds with
  | nil => exact Nat.le_refl _
  | cons d ds ih =>
    simp only [List.map_cons, List.flatten_cons, List.length_append, List.length_cons, le32_length]
    omega

/-! Behind a version byte that matches, neither decoder looks at the parameters again; what it does there is named by
  running it at version 0, where the check evaluates, so that the dispatch on an opcode holds by `rfl`. -/

def Request.decodeBody (body : Bytes) : Except WireErr Request := Request.decode ⟨0, 0⟩ (0 :: body)

def Response.decodeBody (body : Bytes) : Except WireErr Response := Response.decode ⟨0, 0⟩ (0 :: body)

theorem Request.decode_version {P : Params} {v : UInt8} (hv : v.toNat = P.protocolVersion) (body : Bytes) :
    Request.decode P (v :: body) = Request.decodeBody body := by
  -- the decoder's first step is `if v.toNat ≠ P.protocolVersion`; its else-branch is what `decodeBody` computes to
  cases body with
  | nil => exact (if_neg (not_not_intro hv)).trans rfl
  | cons cmd payload => exact (if_neg (not_not_intro hv)).trans rfl

theorem Response.decode_version {P : Params} {v : UInt8} (hv : v.toNat = P.protocolVersion) (st : UInt8) (payload : Bytes) :
    Response.decode P (v :: st :: payload) = Response.decodeBody (st :: payload) :=
  (if_neg (not_not_intro hv)).trans rfl

/-- the opcodes that carry one string (`simp only` takes each conjunct as a rewrite rule) -/
theorem Request.decodeBody_str (payload : Bytes) :
    Request.decodeBody (0x01 :: payload) = strReq .create payload ∧
    Request.decodeBody (0x02 :: payload) = strReq .open_ payload ∧
    Request.decodeBody (0x03 :: payload) = strReq .sql payload ∧
    Request.decodeBody (0x04 :: payload) = strReq .explain payload :=
  ⟨rfl, rfl, rfl, rfl⟩

theorem Response.decodeBody_str (payload : Bytes) :
    Response.decodeBody (0x00 :: payload) = strResp .ok payload ∧
    Response.decodeBody (0x01 :: payload) = strResp .error payload ∧
    Response.decodeBody (0x04 :: payload) = strResp .ddl payload ∧
    Response.decodeBody (0x05 :: payload) = strResp .explain payload ∧
    Response.decodeBody (0x02 :: payload) = decodeRows payload :=
  ⟨rfl, rfl, rfl, rfl, rfl⟩

theorem version_byte {P : Params} (h : P.protocolVersion < 256) : (UInt8.ofNat P.protocolVersion).toNat = P.protocolVersion :=
  UInt8.toNat_ofNat'.trans (Nat.mod_eq_of_lt h)

/-- Neither decoder looks at what follows the message (`read_string` ignores trailing bytes, the fixed-size
    payloads are sliced by length), so the round trips hold in front of anything. -/
theorem Request.decode_encode_append (P : Params) (hP : P.protocolVersion < 256) (r : Request) (h : WfReq r) (rest : Bytes) :
    Request.decode P (Request.encode P r ++ rest) = .ok r := by
  have hv := Request.decode_version (version_byte hP)
  cases r with
  | create p | open_ p | sql p | explain p =>
    simp only [Request.encode, List.cons_append, hv, Request.decodeBody_str, strReq, readString1_writeString p rest h]
  | analyze rate rows =>
    refine (hv _).trans ?_
    -- two u64 fields; each comes back as `UInt64.ofNat x.toNat = x`
    simp [Request.decodeBody, Request.decode, take64_le64 _ _ rate.toNat_lt, take64_le64 _ _ rows.toNat_lt,
      UInt64.ofNat_toNat]
  | _ => exact (hv _).trans rfl

theorem Response.decode_encode_append (P : Params) (hP : P.protocolVersion < 256) (r : Response) (h : WfResp r) (rest : Bytes) :
    Response.decode P (Response.encode P r ++ rest) = .ok r := by
  have hv := Response.decode_version (version_byte hP)
  cases r with
  | ok m | error m | ddl m | explain m =>
    simp only [Response.encode, List.cons_append, hv, Response.decodeBody_str, strResp, readString1_writeString m rest h]
  | rows cols data =>
    simp only [Response.encode, List.cons_append, hv, Response.decodeBody_str,
      decodeRows_encode cols data rest h.1 h.2.1 h.2.2.1 h.2.2.2.1 h.2.2.2.2]
  | rowsAffected n =>
    refine (hv _ _).trans ?_
    simp [Response.decodeBody, Response.decode, take64_le64 _ _ n.toNat_lt, UInt64.ofNat_toNat]
  | vacuumComplete a b c =>
    refine (hv _ _).trans ?_
    simp [Response.decodeBody, Response.decode, take64_le64 _ _ a.toNat_lt, take64_le64 _ _ b.toNat_lt,
      take64_le64 _ _ c.toNat_lt, UInt64.ofNat_toNat]
  | _ => exact (hv _ _).trans rfl

theorem lossyFuel_ascii (n : Nat) (s : Bytes) (hn : s.length ≤ n) (h : ∀ b ∈ s, b.toNat < 128) :
    lossyFuel n s = s := by
  induction s generalizing n with
  | nil => cases n <;> rfl
  | cons b rest ih =>
    cases n with
    | zero => exact absurd hn (Nat.not_succ_le_zero _)
    | succ n =>
      have hw : width b = 1 := if_pos (h b List.mem_cons_self)
      simp only [lossyFuel, hw, ih n (Nat.le_of_succ_le_succ hn) fun c hc => h c (List.mem_cons_of_mem _ hc)]

theorem validStr_ascii (s : Bytes) (h : ∀ b ∈ s, b.toNat < 128) : ValidStr s :=
  lossyFuel_ascii _ s (Nat.le_refl _) h

theorem readString_length {d s rest : Bytes} (h : readString d = .ok (s, rest)) : rest.length ≤ d.length := by
  revert h
  fun_cases readString d <;> intro h
  case case3 len r0 ht _ =>  -- the string is there
    cases h
    rw [(take32_length ht).1, List.length_drop]
    omega
  all_goals cases h

theorem readStrings_length {n : Nat} {d rest : Bytes} {ss : List Bytes}
    (h : readStrings n d = .ok (ss, rest)) : rest.length ≤ d.length := by
  revert h
  fun_induction readStrings n d generalizing ss <;> intro h
  case case1 => cases h; exact Nat.le_refl _  -- no string left to read
  case case4 hrs _ _ hr2 ih =>  -- a string, then the others
    cases h
    exact Nat.le_trans (ih hr2) (readString_length hrs)
  all_goals cases h

end AxVerif.Wire
