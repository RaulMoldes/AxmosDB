/- Helper lemmas for the write-ahead-logging protocol model (C01 / C02 / C08). -/
import AxVerif.Model.Recovery
namespace AxVerif.Recovery
open AxVerif AxVerif.Durable

theorem winnerStep_of_ne {t : Nat} {r : Rec} (h : r.tid ≠ t) (w : Bool) : winnerStep t w r = w := by
  cases r <;> simp_all [winnerStep, Rec.tid]

theorem foldl_winnerStep_of_ne {t : Nat} (rs : List Rec) (h : ∀ r ∈ rs, r.tid ≠ t) (w : Bool) :
    rs.foldl (winnerStep t) w = w := by
  induction rs generalizing w with
  | nil => rfl
  | cons r rs ih =>
    simp only [List.foldl_cons]
    rw [winnerStep_of_ne (h r (by simp))]
    exact ih (fun r' hr' => h r' (by simp [hr'])) w

theorem isWinner_append_right {a b : List Rec} {t : Nat} (h : ∀ r ∈ b, r.tid ≠ t) :
    isWinner (a ++ b) t = isWinner a t := by
  simp only [isWinner, List.foldl_append]
  exact foldl_winnerStep_of_ne b h _

theorem isWinner_append_left {a b : List Rec} {t : Nat} (h : ∀ r ∈ a, r.tid ≠ t) :
    isWinner (a ++ b) t = isWinner b t := by
  simp only [isWinner, List.foldl_append]
  rw [foldl_winnerStep_of_ne a h]

theorem foldl_winnerStep_true {t : Nat} (rs : List Rec) (w : Bool)
    (h : rs.foldl (winnerStep t) w = true) : w = true ∨ Rec.commit t ∈ rs := by
  induction rs generalizing w with
  | nil => exact Or.inl h
  | cons r rs ih =>
    simp only [List.foldl_cons] at h
    rcases ih _ h with h1 | h1
    · cases r with
      | op t' d => simp [winnerStep] at h1; exact Or.inl h1
      | commit t' =>
        simp only [winnerStep] at h1
        by_cases e : t' = t
        · subst e; exact Or.inr (by simp)
        · simp [e] at h1; exact Or.inl h1
      | abort t' =>
        simp only [winnerStep] at h1
        by_cases e : t' = t
        · simp [e] at h1
        · simp [e] at h1; exact Or.inl h1
    · exact Or.inr (by simp [h1])

theorem commit_mem_of_isWinner {rs : List Rec} {t : Nat} (h : isWinner rs t = true) : Rec.commit t ∈ rs := by
  rcases foldl_winnerStep_true rs false h with h1 | h1
  · cases h1
  · exact h1

theorem foldl_congr_mem {α β : Type} (f g : β → α → β) (l : List α) (s : β)
    (h : ∀ s, ∀ a ∈ l, f s a = g s a) : l.foldl f s = l.foldl g s := by
  induction l generalizing s with
  | nil => rfl
  | cons a l ih =>
    simp only [List.foldl_cons]
    rw [h s a (by simp)]
    exact ih _ (fun s' a' ha' => h s' a' (by simp [ha']))

def TxDisjoint (a b : List Rec) : Prop := ∀ r ∈ a, ∀ r' ∈ b, r.tid ≠ r'.tid

theorem replay_append (s : DbState) (a b : List Rec) (h : TxDisjoint a b) :
    replay s (a ++ b) = replay (replay s a) b := by
  simp only [replay, replayIn, List.foldl_append]
  have ha : a.foldl (redoStep (a ++ b)) s = a.foldl (redoStep a) s := by
    apply foldl_congr_mem
    intro s' r hr
    cases r with
    | op t d =>
      simp only [redoStep]
      rw [isWinner_append_right (t := t) (fun r' hr' => (h _ hr r' hr').symm)]
    | commit t => rfl
    | abort t => rfl
  rw [ha]
  apply foldl_congr_mem
  intro s' r hr
  cases r with
  | op t d =>
    simp only [redoStep]
    rw [isWinner_append_left (t := t) (fun r' hr' => h r' hr' _ hr)]
  | commit t => rfl
  | abort t => rfl

theorem replay_nil (s : DbState) : replay s [] = s := rfl

theorem quiescent_iff (rs : List Rec) :
    quiescent rs = true ↔ ∀ r ∈ rs, ∃ r' ∈ rs, r'.isFinish = true ∧ r'.tid = r.tid := by
  simp only [quiescent, List.all_eq_true, List.any_eq_true, Bool.and_eq_true, beq_iff_eq]

theorem quiescent_append {a b : List Rec} (ha : quiescent a = true) (hb : quiescent b = true) :
    quiescent (a ++ b) = true := by
  rw [quiescent_iff] at *
  intro r hr
  rcases List.mem_append.mp hr with h | h
  · obtain ⟨r', hr', hf⟩ := ha r h
    exact ⟨r', List.mem_append.mpr (Or.inl hr'), hf⟩
  · obtain ⟨r', hr', hf⟩ := hb r h
    exact ⟨r', List.mem_append.mpr (Or.inr hr'), hf⟩

theorem txDisjoint_of_wf {a b : List Rec} (hw : WfRecs (a ++ b)) (hq : quiescent a = true) : TxDisjoint a b := by
  intro r hr r' hr' e
  obtain ⟨f, hf, hfin, htid⟩ := (quiescent_iff a).mp hq r hr
  have hp := (List.pairwise_append.mp hw).2.2 f hf r' hr'
  exact hp ⟨hfin, by rw [htid, e]⟩

theorem WfRecs.left {a b : List Rec} (h : WfRecs (a ++ b)) : WfRecs a := (List.pairwise_append.mp h).1

/-- `countStep`, `counts` and `evRecs` name the step functions of the model's folds `durableCount` and `appended`, so
    that a fold over `es ++ [e]` can be stated as one step (`counts_snoc`, `appended_snoc`). -/
def countStep (p : Nat × Nat) : Ev → Nat × Nat
  | .append _ => (p.1, p.2 + 1)
  | .force => (p.2, p.2)
  | .checkpoint => (p.2, p.2)
  | .ack _ => p

def counts (es : List Ev) : Nat × Nat := es.foldl countStep (0, 0)

theorem durableCount_eq (es : List Ev) : durableCount es = (counts es).1 := by
  unfold durableCount counts
  congr 1

def evRecs : Ev → List Rec
  | .append r => [r]
  | _ => []

theorem appended_append (a b : List Ev) : appended (a ++ b) = appended a ++ appended b := by
  induction a with
  | nil => rfl
  | cons e a ih =>
    cases e <;> simp [appended, ih]

theorem appended_snoc (es : List Ev) (e : Ev) : appended (es ++ [e]) = appended es ++ evRecs e := by
  rw [appended_append]
  cases e <;> rfl

theorem counts_snoc (es : List Ev) (e : Ev) : counts (es ++ [e]) = countStep (counts es) e := by
  simp [counts, List.foldl_append]

theorem run_snoc (es : List Ev) (e : Ev) : run (es ++ [e]) = step (run es) e := by
  simp [run, List.foldl_append]

theorem snoc_induction {α : Type} {P : List α → Prop} (nil : P [])
    (snoc : ∀ l a, P l → P (l ++ [a])) : ∀ l, P l := by
  intro l
  have h : ∀ r : List α, P r.reverse := by
    intro r
    induction r with
    | nil => exact nil
    | cons a r ih => rw [List.reverse_cons]; exact snoc _ _ ih
  have := h l.reverse
  rwa [List.reverse_reverse] at this

/-- the second counter counts the records appended, the first those of them that a force or checkpoint covered -/
theorem counts_props (es : List Ev) : (counts es).1 ≤ (counts es).2 ∧ (counts es).2 = (appended es).length := by
  refine snoc_induction (P := fun es => (counts es).1 ≤ (counts es).2 ∧ (counts es).2 = (appended es).length) ?_ ?_ es
  · exact ⟨Nat.le_refl 0, rfl⟩
  · intro es e ⟨h1, h2⟩
    show (counts (es ++ [e])).1 ≤ (counts (es ++ [e])).2 ∧ (counts (es ++ [e])).2 = (appended (es ++ [e])).length
    rw [counts_snoc, appended_snoc, List.length_append, ← h2]
    cases e with
    | append r => exact ⟨Nat.le_succ_of_le h1, rfl⟩
    | ack t => exact ⟨h1, rfl⟩
    | force => exact ⟨Nat.le_refl _, rfl⟩
    | checkpoint => exact ⟨Nat.le_refl _, rfl⟩

/-- What links the machine to the history: `old` is the part of the history that checkpoints have folded into the
    stable image. -/
structure Inv (es : List Ev) (old : List Rec) : Prop where
  hist : appended es = old ++ (run es).log ++ (run es).buf
  cdur : (counts es).1 = (old ++ (run es).log).length
  stab : (run es).stable = replay [] old
  quie : quiescent old = true

theorem inv_step (es : List Ev) (e : Ev) (old : List Rec) (h : Inv es old)
    (hw : WfRecs (appended (es ++ [e]))) : ∃ old', Inv (es ++ [e]) old' := by
  obtain ⟨hist, cdur, stab, quie⟩ := h
  -- a force, and a checkpoint that finds a transaction open: the whole history becomes durable, nothing else moves
  have hforce : ∀ e, evRecs e = [] → countStep (counts es) e = ((counts es).2, (counts es).2) →
      step (run es) e = step (run es) .force → Inv (es ++ [e]) old := fun e h1 h2 h3 =>
    ⟨by rw [appended_snoc, run_snoc, h1, h3, hist, List.append_nil, List.append_assoc old]; exact (List.append_nil _).symm,
     by rw [counts_snoc, run_snoc, h2, h3, (counts_props es).2, hist, List.append_assoc old]; rfl,
     by rw [run_snoc, h3]; exact stab, quie⟩
  cases e with
  | append r =>
    exact ⟨old, by rw [appended_snoc, run_snoc, hist]; exact List.append_assoc _ _ _,
      by rw [counts_snoc, run_snoc]; exact cdur, by rw [run_snoc]; exact stab, quie⟩
  | ack t =>
    exact ⟨old, by rw [appended_snoc, run_snoc, hist]; exact List.append_nil _,
      by rw [counts_snoc, run_snoc]; exact cdur, by rw [run_snoc]; exact stab, quie⟩
  | force => exact ⟨old, hforce .force rfl rfl rfl⟩
  | checkpoint =>
    by_cases hq : quiescent ((run es).log ++ (run es).buf) = true
    · rw [appended_snoc, show evRecs Ev.checkpoint = [] from rfl, List.append_nil] at hw
      have hdis : TxDisjoint old ((run es).log ++ (run es).buf) := by
        apply txDisjoint_of_wf _ quie
        rw [← List.append_assoc, ← hist]; exact hw
      have hstep : step (run es) .checkpoint =
          { stable := replay (run es).stable ((run es).log ++ (run es).buf), log := [], buf := [] } := if_pos hq
      refine ⟨old ++ ((run es).log ++ (run es).buf), ?_, ?_, ?_, quiescent_append quie hq⟩
      · rw [appended_snoc, run_snoc, hstep, hist, List.append_assoc old]; exact (List.append_nil _).symm
      · rw [counts_snoc, run_snoc, hstep, List.append_nil, ← List.append_assoc, ← hist]
        exact (counts_props es).2
      · rw [run_snoc, hstep, replay_append _ _ _ hdis, ← stab]
    · exact ⟨old, hforce .checkpoint rfl rfl (if_neg hq)⟩

theorem inv_exists (es : List Ev) : WfRecs (appended es) → ∃ old, Inv es old := by
  refine snoc_induction (P := fun es => WfRecs (appended es) → ∃ old, Inv es old) ?_ ?_ es
  · intro _; exact ⟨[], rfl, rfl, rfl, rfl⟩
  · intro es e ih hw
    have hw' : WfRecs (appended es) := by
      rw [appended_snoc] at hw; exact hw.left
    obtain ⟨old, hinv⟩ := ih hw'
    exact inv_step es e old hinv hw

/-- A relation between a refined machine and the atomic one that every refined step keeps, the atomic machine being
    fed what the step emits, is kept along a whole trace against the glued atomic trace. -/
theorem foldl_sim {σ ε : Type} (R : σ → St → Prop) (step' : σ → ε → σ) (emit' : σ → ε → List Ev)
    (glue' : σ → List ε → List Ev) (hnil : ∀ x, glue' x [] = [])
    (hcons : ∀ x e es, glue' x (e :: es) = emit' x e ++ glue' (step' x e) es)
    (hstep : ∀ x s e, R x s → R (step' x e) ((emit' x e).foldl step s)) (es : List ε) (x : σ) (s : St) (h : R x s) :
    R (es.foldl step' x) ((glue' x es).foldl step s) := by
  induction es generalizing x s with
  | nil => rw [hnil]; exact h
  | cons e es ih =>
    rw [hcons, List.foldl_append]
    exact ih _ _ (hstep x s e h)

/-- What the atomic machine looks like beside the split-checkpoint one: the same, except that between a checkpoint's
    page writes and its truncation it has already checkpointed. -/
def Sim (x : St2) (s : St) : Prop :=
  (x.torn = false → x.s = s) ∧ (x.torn = true → s = { stable := x.s.stable, log := [], buf := [] })

/-- What the atomic machine looks like while the journaled one is in each of its phases: the same until the journal
    is marked DONE, and from then on already checkpointed onto the file. -/
def Sim3 (x : St3) (s : St) : Prop :=
  match x.phase with
  | .idle => x.s = s
  | .pages => x.s = s ∧ s.buf = [] ∧ quiescent s.log = true ∧ x.file = replay s.stable s.log
  | .done => s = { stable := x.file, log := [], buf := [] }
  | .dropped => s = { stable := x.file, log := [], buf := [] }

theorem Sim3.idle_iff {x : St3} {s : St} (hp : x.phase = .idle) : Sim3 x s ↔ x.s = s := by
  unfold Sim3; rw [hp]

theorem Sim3.pages_iff {x : St3} {s : St} (hp : x.phase = .pages) :
    Sim3 x s ↔ x.s = s ∧ s.buf = [] ∧ quiescent s.log = true ∧ x.file = replay s.stable s.log := by
  unfold Sim3; rw [hp]

theorem Sim3.settled_iff {x : St3} {s : St} (hp : x.phase = .done ∨ x.phase = .dropped) :
    Sim3 x s ↔ s = { stable := x.file, log := [], buf := [] } := by
  unfold Sim3; rcases hp with hp | hp <;> rw [hp]

end AxVerif.Recovery
