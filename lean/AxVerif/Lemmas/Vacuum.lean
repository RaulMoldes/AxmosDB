/-
  Lemmas about `Model/Vacuum.lean` (property C13).  VACUUM and reopen are "abort everything, rewrite the stored rows, run one
  empty transaction" (`vacuumWith_eq_tick`), so they keep the simulation relation of `Lemmas/DbSim.lean` as soon as the
  rewrite keeps what the vacuum snapshot reads.  Everything here is for `Defects.none` (`D0`) and `VDefects.none` (`V0`)
  unless a lemma names `D` / `V`.
-/
import AxVerif.Model.Vacuum
import AxVerif.Lemmas.DbHist
namespace AxVerif.Db

abbrev V0 : VDefects := VDefects.none

theorem length_filterMap_of_isSome {f : α → Option β} : ∀ (l : List α), (∀ x ∈ l, (f x).isSome = true) →
    (l.filterMap f).length = l.length
  | [], _ => rfl
  | x :: xs, h => by
    obtain ⟨y, hy⟩ := Option.isSome_iff_exists.1 (h x (List.mem_cons_self ..))
    rw [List.filterMap_cons, hy, List.length_cons, List.length_cons,
      length_filterMap_of_isSome xs (fun z hz => h z (List.mem_cons_of_mem _ hz))]

theorem liveVersions_V0 (s : Snapshot) (r : Row) :
    liveVersions V0 s r = r.versions.filter (fun v => !s.aborted.contains v.creator) := by
  simp [liveVersions, V0, VDefects.none]

theorem deletedForVacuum_V0 (s : Snapshot) (r : Row) : deletedForVacuum V0 s r = r.deleters.any s.cb := by
  simp [deletedForVacuum, V0, VDefects.none]

theorem liveVersions_sublist (V : VDefects) (s : Snapshot) (r : Row) : (liveVersions V s r).Sublist r.versions := by
  fun_cases liveVersions V s r
  · exact List.nil_sublist _
  · exact List.nil_sublist _
  · next hv _ => rw [hv]; exact List.Sublist.refl _
  · exact List.filter_sublist

theorem trimTail_sublist (h : Nat) (kept : Bool) (l : List Version) : (trimTail h kept l).Sublist l := by
  fun_induction trimTail h kept l
  · exact List.Sublist.refl _
  · next ih => exact ih.cons_cons _
  · exact List.nil_sublist _

theorem trimChain_sublist (h : Nat) (l : List Version) : (trimChain h l).Sublist l := by
  cases l with
  | nil => exact List.Sublist.refl _
  | cons v tl => exact List.Sublist.cons_cons _ (trimTail_sublist h _ tl)

theorem trimChain_head (h : Nat) (vs : List Version) : (trimChain h vs).head? = vs.head? := by
  cases vs <;> rfl

def belowCount (h : Nat) (l : List Version) : Nat := (l.filter (fun w => decide (w.creator < h))).length

theorem belowCount_cons (h : Nat) (w : Version) (l : List Version) :
    belowCount h (w :: l) = (if w.creator < h then 1 else 0) + belowCount h l := by
  unfold belowCount
  rw [List.filter_cons]
  by_cases hb : w.creator < h
  · simp only [hb, decide_true, if_true, List.length_cons]; omega
  · simp only [hb, decide_false, Bool.false_eq_true, if_false]; omega

/-- below the head `vaccum_with` keeps at most one version older than the horizon, and none if a newer kept version is
    already older than the horizon -/
theorem belowCount_trimTail (h : Nat) : ∀ (kept : Bool) (l : List Version),
    belowCount h (trimTail h kept l) ≤ if kept then 0 else 1
  | kept, [] => by cases kept <;> exact Nat.zero_le _
  | kept, w :: ws => by
    have ih := belowCount_trimTail h (kept || decide (w.creator < h)) ws
    unfold trimTail
    by_cases hb : w.creator < h
    · -- `w` is older than the horizon: it stays only if nothing kept so far is, and then nothing older follows
      have hge : ¬ h ≤ w.creator := by omega
      cases kept with
      | true => simp only [hge, decide_false, Bool.not_true, Bool.or_false, Bool.false_eq_true, if_false]; exact Nat.le_refl _
      | false =>
        simp only [hb, decide_true, Bool.or_true, if_true] at ih
        simp only [Bool.not_false, Bool.or_true, if_true, belowCount_cons, hb, decide_true, Bool.false_eq_true, if_false]
        omega
    · have hge : h ≤ w.creator := by omega
      simp only [hb, decide_false, Bool.or_false] at ih
      simp only [hge, decide_true, Bool.true_or, if_true, belowCount_cons, hb, if_false, decide_false, Bool.or_false]
      omega

theorem belowCount_trimChain (h : Nat) (l : List Version) : belowCount h (trimChain h l) ≤ 1 := by
  cases l with
  | nil => exact Nat.zero_le _
  | cons v tl =>
    have ih := belowCount_trimTail h (decide (v.creator < h)) tl
    unfold trimChain
    rw [belowCount_cons]
    by_cases hb : v.creator < h
    · simp only [hb, decide_true, if_true] at ih ⊢; omega
    · simp only [hb, decide_false, Bool.false_eq_true, if_false] at ih ⊢; omega

theorem Row.vacuum_some {V : VDefects} {s : Snapshot} {h : Nat} {r r' : Row} (hv : r.vacuum V s h = some r') :
    r' = { r with versions := trimChain h (liveVersions V s r),
                  deleters := r.deleters.filter (fun d => !s.aborted.contains d) } ∧
      (liveVersions V s r).isEmpty = false ∧ deletedForVacuum V s r = false := by
  revert hv
  fun_cases Row.vacuum V s h r
  · exact fun hv => nomatch hv
  · exact fun hv => nomatch hv
  · next h1 h2 => exact fun hv => ⟨(Option.some.inj hv).symm, by simpa using h1, by simpa using h2⟩

theorem Row.vacuum_rid {V : VDefects} {s : Snapshot} {h : Nat} {r r' : Row} (hv : r.vacuum V s h = some r') :
    r'.rid = r.rid := by
  obtain ⟨rfl, _⟩ := Row.vacuum_some hv
  rfl

theorem Row.vacuum_versions_sublist {V : VDefects} {s : Snapshot} {h : Nat} {r r' : Row} (hv : r.vacuum V s h = some r') :
    r'.versions.Sublist r.versions := by
  obtain ⟨rfl, _⟩ := Row.vacuum_some hv
  exact (trimChain_sublist h _).trans (liveVersions_sublist V s r)

theorem Row.vacuum_owners {V : VDefects} {s : Snapshot} {h : Nat} {r r' : Row} (hv : r.vacuum V s h = some r') :
    ∀ u ∈ r'.owners, u ∈ r.owners := by
  have hsub := Row.vacuum_versions_sublist hv
  obtain ⟨rfl, _⟩ := Row.vacuum_some hv
  intro u hu
  rcases List.mem_append.1 hu with hu | hu
  · obtain ⟨v, hv', rfl⟩ := List.mem_map.1 hu
    exact creator_mem_owners (hsub.subset hv')
  · exact deleter_mem_owners (List.mem_filter.1 hu).1

theorem Row.vacuum_size_le {V : VDefects} {s : Snapshot} {h : Nat} {r r' : Row} (hv : r.vacuum V s h = some r') :
    r'.size ≤ r.size := by
  have h1 := (Row.vacuum_versions_sublist hv).length_le
  obtain ⟨rfl, _⟩ := Row.vacuum_some hv
  have h2 := (List.filter_sublist (l := r.deleters) (p := fun d => !s.aborted.contains d)).length_le
  unfold Row.size
  exact Nat.add_le_add h1 h2

theorem sizeRows_vacuumRows_le (V : VDefects) (s : Snapshot) (h : Nat) : ∀ (rows : List Row),
    sizeRows (vacuumRows V s h rows) ≤ sizeRows rows
  | [] => Nat.le_refl _
  | r :: rs => by
    have ih := sizeRows_vacuumRows_le V s h rs
    unfold vacuumRows at ih ⊢
    cases hv : r.vacuum V s h with
    | none => rw [List.filterMap_cons_none hv, sizeRows]; omega
    | some r' =>
      have := Row.vacuum_size_le hv
      rw [List.filterMap_cons_some hv, sizeRows, sizeRows]; omega

theorem Row.vacuum_V0 (s : Snapshot) (h : Nat) (r : Row) :
    r.vacuum V0 s h =
      if (r.versions.filter (fun v => !s.aborted.contains v.creator)).isEmpty then none
      else if r.deleters.any s.cb then none
      else some { r with versions := trimChain h (r.versions.filter (fun v => !s.aborted.contains v.creator)),
                         deleters := r.deleters.filter (fun d => !s.aborted.contains d) } := by
  simp only [Row.vacuum, liveVersions_V0, deletedForVacuum_V0]

theorem live_eq_seen {s S : Snapshot} {r : Row} (hS : ∀ u ∈ r.owners, S.sees u = s.cb u)
    (hab : ∀ u ∈ r.owners, s.aborted.contains u = !s.cb u) :
    r.versions.filter (fun v => !s.aborted.contains v.creator) = r.versions.filter (fun v => S.sees v.creator) := by
  apply List.filter_congr
  intro v hv
  rw [hab _ (creator_mem_owners hv), hS _ (creator_mem_owners hv), Bool.not_not]

theorem Row.vacuum_view (s S : Snapshot) (h : Nat) (r : Row)
    (hS : ∀ u ∈ r.owners, S.sees u = s.cb u)
    (hab : ∀ u ∈ r.owners, s.aborted.contains u = !s.cb u) :
    (r.vacuum V0 s h).bind (Row.toARow D0 S) = r.toARow D0 S := by
  have hany : r.deleters.any s.cb = r.deleters.any S.sees :=
    any_congr_mem _ (fun d hd => (hS d (deleter_mem_owners hd)).symm)
  rw [Row.vacuum_V0, live_eq_seen hS hab, hany]
  simp only [Row.toARow]
  rw [rowVisible_none, ← List.head?_filter]
  cases hd : r.deleters.any S.sees with
  | true => cases (r.versions.filter (fun v => S.sees v.creator)) <;> rfl
  | false =>
    cases hvs : r.versions.filter (fun v => S.sees v.creator) with
    | nil => rfl
    | cons v tl =>
      have hvsees : S.sees v.creator = true := by
        have : v ∈ r.versions.filter (fun v => S.sees v.creator) := by rw [hvs]; exact List.mem_cons_self ..
        exact (List.mem_filter.1 this).2
      -- the erased delete marks are among those `S` does not see, and `S` selects the head, which `trimChain` keeps
      have hd' : (r.deleters.filter (fun d => !s.aborted.contains d)).any S.sees = false := by
        apply Bool.eq_false_iff.2
        intro hc
        obtain ⟨d, hdm, hdd⟩ := List.any_eq_true.1 hc
        rw [List.any_eq_true.2 ⟨d, (List.mem_filter.1 hdm).1, hdd⟩] at hd
        cases hd
      simp only [List.isEmpty_cons, Bool.false_eq_true, if_false, Option.bind_some, Row.toARow, rowVisible_none, hd',
        trimChain, List.find?_cons, hvsees, List.head?_cons, Option.map_some]

theorem Row.vacuum_keeps_selected (s S : Snapshot) (h : Nat) (r r' : Row)
    (hS : ∀ u ∈ r.owners, S.sees u = s.cb u)
    (hab : ∀ u ∈ r.owners, s.aborted.contains u = !s.cb u)
    (hv : r.vacuum V0 s h = some r') (v : Version) (hsel : r.versions.find? (fun v => S.sees v.creator) = some v) :
    r'.versions.head? = some v := by
  obtain ⟨rfl, _⟩ := Row.vacuum_some hv
  show (trimChain h (liveVersions V0 s r)).head? = some v
  rw [trimChain_head, liveVersions_V0, live_eq_seen hS hab, List.head?_filter, hsel]

/-- what `abort_all` does to one entry -/
def killTxn (t : Txn) : Txn := if t.status = .active then { t with status := .aborted } else t

theorem killTxn_snap (t : Txn) : (killTxn t).snap = t.snap := by
  unfold killTxn; split <;> rfl

theorem killTxn_startTs (t : Txn) : (killTxn t).startTs = t.startTs := by
  unfold killTxn; split <;> rfl

theorem killTxn_ws (t : Txn) : (killTxn t).ws = t.ws := by
  unfold killTxn; split <;> rfl

theorem killTxn_committed (t : Txn) : (killTxn t).status = .committed ↔ t.status = .committed := by
  unfold killTxn
  by_cases h : t.status = .active
  · simp [h]
  · simp [h]

theorem getElem?_abortAll {txns : List Txn} {i : Nat} {t' : Txn} :
    (abortAll txns)[i]? = some t' ↔ ∃ t, txns[i]? = some t ∧ t' = killTxn t := by
  show (txns.map killTxn)[i]? = some t' ↔ _
  rw [List.getElem?_map]
  cases txns[i]? with
  | none => simp
  | some t => simp [eq_comm]

/-- `abort_all` + the end of every session -/
def State.killAll (σ : State) : State := { σ with txns := abortAll σ.txns, sessions := [] }

theorem killAll_committed (σ : State) (u : Nat) : (σ.killAll).isCommitted u ↔ σ.isCommitted u := by
  simp only [State.isCommitted, State.killAll]
  constructor
  · rintro ⟨t', h1, h2⟩
    obtain ⟨t, ht, rfl⟩ := getElem?_abortAll.1 h1
    exact ⟨t, ht, (killTxn_committed t).1 h2⟩
  · rintro ⟨t, ht, h2⟩
    exact ⟨killTxn t, getElem?_abortAll.2 ⟨t, ht, rfl⟩, (killTxn_committed t).2 h2⟩

theorem killAll_no_active (σ : State) (u : Nat) (t : Txn) (h : (σ.killAll).txns[u]? = some t) : t.status ≠ .active := by
  obtain ⟨t0, _, rfl⟩ := getElem?_abortAll.1 h
  unfold killTxn
  by_cases h0 : t0.status = .active
  · simp [h0]
  · simp [h0]

theorem CInv.killAll (σ : State) (h : CInv σ) : CInv σ.killAll := by
  simp only [State.killAll]
  constructor
  · intro i t' hi
    obtain ⟨t, ht, rfl⟩ := getElem?_abortAll.1 hi
    rw [killTxn_snap t]; exact h.xid i t ht
  · simpa [abortAll] using h.lc_bound
  · intro u t' hu hst
    obtain ⟨t, ht, rfl⟩ := getElem?_abortAll.1 hu
    exact h.lc_max u t ht ((killTxn_committed t).1 hst)
  · intro e he
    obtain ⟨t, h1, h2, h3⟩ := h.clog_comm e he
    refine ⟨killTxn t, getElem?_abortAll.2 ⟨t, h1, rfl⟩, (killTxn_committed t).2 h2, ?_⟩
    rw [killTxn_ws t]; exact h3
  · intro u t' hu hst
    obtain ⟨t, ht, rfl⟩ := getElem?_abortAll.1 hu
    exact h.comm_clog u t ht ((killTxn_committed t).1 hst)
  · intro i t' hi
    obtain ⟨t, ht, rfl⟩ := getElem?_abortAll.1 hi
    rw [killTxn_startTs t]; exact h.start_le i t ht
  · intro i t' hi u hu
    obtain ⟨t, ht, rfl⟩ := getElem?_abortAll.1 hi
    rw [killTxn_snap t, killTxn_startTs t]; exact h.snap_clog i t ht u hu
  · intro i j ei ej hij hi hj hov
    obtain ⟨t, h1, h2⟩ := h.fcw i j ei ej hij hi hj hov
    exact ⟨killTxn t, getElem?_abortAll.2 ⟨t, h1, rfl⟩, by rw [killTxn_startTs t]; exact h2⟩

theorem SInv.killAll (σ : State) (j : Nat) (h : SInv σ j) : SInv σ.killAll j := by
  refine ⟨?_, h.sorted, h.bound⟩
  intro r hr u hu
  obtain ⟨t, h1, h2⟩ := h.stamps r hr u hu
  exact ⟨killTxn t, getElem?_abortAll.2 ⟨t, h1, rfl⟩, by rw [killTxn_ws t]; exact h2⟩

theorem killAll_length (σ : State) : σ.killAll.txns.length = σ.txns.length := by simp [State.killAll, abortAll]

theorem Core.killAll (σ : State) (α : Spec.State) (j : Nat) (h : Core σ α j) : Core σ.killAll α j := by
  have hc1 := CInv.killAll σ h.cinv
  refine ⟨hc1, SInv.killAll σ j h.sinv, h.cat, h.clock, ?_, h.log⟩
  show view D0 (σ.killAll.freshSnap D0) σ.rows = α.committed
  rw [← h.committed]
  symm
  apply view_fresh_eq σ _ h.cinv hc1
  · intro r hr u hu
    have := owners_lt σ j h.sinv r hr u hu
    rw [killAll_length]; omega
  · intro u; exact (killAll_committed σ u).symm

/-- the snapshot of the vacuum transaction when VACUUM runs in state `σ` -/
def vacSnap (σ : State) : Snapshot := σ.killAll.freshSnap D0

theorem vacSnap_stamp (σ : State) (hc : CInv σ) {u : Nat} (hu : u < σ.txns.length) :
    ((vacSnap σ).cb u = true ↔ σ.isCommitted u) ∧ (vacSnap σ).aborted.contains u = !(vacSnap σ).cb u ∧
    (vacSnap σ).sees u = (vacSnap σ).cb u := by
  have hu' : u < σ.killAll.txns.length := by rw [killAll_length]; exact hu
  have hne : u ≠ σ.killAll.txns.length := Nat.ne_of_lt hu'
  have h1 := fresh_cb σ.killAll (CInv.killAll σ hc) u hne
  have hget : σ.killAll.txns[u]? = some σ.killAll.txns[u] := List.getElem?_eq_getElem hu'
  have hcb : (vacSnap σ).cb u = true ↔ σ.killAll.txns[u].status = .committed :=
    h1.trans ⟨fun ⟨t, ht, hs⟩ => by rw [hget] at ht; cases ht; exact hs, fun hs => ⟨_, hget, hs⟩⟩
  have hab : (vacSnap σ).aborted.contains u = true ↔ σ.killAll.txns[u].status = .aborted := by
    rw [vacSnap, freshSnap_none, List.contains_eq_mem, decide_eq_true_eq, mem_idsWith0]
    exact ⟨fun ⟨t, ht, hs⟩ => by rw [hget] at ht; cases ht; exact hs, fun hs => ⟨_, hget, hs⟩⟩
  refine ⟨h1.trans (killAll_committed σ u), ?_, ?_⟩
  · -- after `abort_all` the entry is committed or aborted, and the snapshot says which
    rw [Bool.eq_iff_iff, Bool.not_eq_true', ← Bool.not_eq_true, hab, hcb]
    cases hst : σ.killAll.txns[u].status with
    | active => exact (killAll_no_active σ u _ hget hst).elim
    | committed => exact ⟨(fun h => nomatch h), fun h => (h rfl).elim⟩
    | aborted => exact ⟨(fun _ h => nomatch h), fun _ => rfl⟩
  · have hx : (vacSnap σ).xid = σ.killAll.txns.length := by rw [vacSnap, freshSnap_none]
    rw [Snapshot.sees, hx, beq_eq_false_iff_ne.2 hne, Bool.false_or]

theorem snapOf_begin (σ1 : State) : (σ1.beginTxn D0).1.snapOf σ1.txns.length = σ1.freshSnap D0 := by
  simp [State.snapOf, State.beginTxn]

/-- The vacuum transaction's snapshot is the one taken right after `abort_all`, and neither `begin` nor `commit` looks at
    the stored rows: the frame is the rewrite of the rows followed by the empty transaction `tick`. -/
theorem vacuumWith_eq_tick (σ : State) (clean : Snapshot → Nat → List Row → List Row) (cix : Snapshot → Index → Index) :
    σ.vacuumWith D0 false clean (fun _ txns => txns) cix =
      (step D0 { σ.killAll with rows := clean (vacSnap σ) σ.lastCommitted σ.rows, index := cix (vacSnap σ) σ.index } .tick).1 := by
  simp only [State.vacuumWith]
  rw [show (State.beginTxn D0 { σ with txns := abortAll σ.txns, sessions := if false = true then σ.sessions else [] }).1.snapOf
      (State.beginTxn D0 { σ with txns := abortAll σ.txns, sessions := if false = true then σ.sessions else [] }).2 =
    vacSnap σ from snapOf_begin σ.killAll]
  rfl

/-- VACUUM and reopen share `State.vacuumWith`; `clean` is what they do to the stored rows, given the vacuum transaction's
    snapshot and the horizon (the last committed id).  `hview` may assume that the vacuum snapshot counts every stamp as
    committed or lists it as aborted. -/
theorem frame_rel (σ : State) (α : Spec.State) (h : Rel σ α) (clean : Snapshot → Nat → List Row → List Row)
    (cix : Snapshot → Index → Index)
    (hsub : ∀ r' ∈ clean (vacSnap σ) σ.lastCommitted σ.rows, ∃ r ∈ σ.rows, r'.rid = r.rid ∧ ∀ u ∈ r'.owners, u ∈ r.owners)
    (hsorted : (clean (vacSnap σ) σ.lastCommitted σ.rows).Pairwise (fun a b => ridLt a.rid b.rid))
    (hview : (∀ r ∈ σ.rows, ∀ u ∈ r.owners, (vacSnap σ).sees u = (vacSnap σ).cb u ∧
        (vacSnap σ).aborted.contains u = !(vacSnap σ).cb u) →
      view D0 (vacSnap σ) (clean (vacSnap σ) σ.lastCommitted σ.rows) = view D0 (vacSnap σ) σ.rows) :
    Rel (σ.vacuumWith D0 false clean (fun _ txns => txns) cix) α.quiesce := by
  have c1 : Core σ.killAll α 0 := Core.killAll σ α 0 h.core
  have hadm := fun r hr u hu =>
    (vacSnap_stamp σ h.core.cinv (owners_lt σ 0 h.core.sinv r hr u hu)).2.symm
  rw [vacuumWith_eq_tick]
  -- everything is aborted and the sessions are gone: the rewritten store is related to `α` without its sessions
  suffices hrel : Rel { σ.killAll with rows := clean (vacSnap σ) σ.lastCommitted σ.rows, index := cix (vacSnap σ) σ.index }
      { α with sessions := [] } from (step_ok _ _ hrel .tick).2
  refine ⟨⟨c1.cinv, ⟨?_, hsorted, ?_⟩, c1.cat, c1.clock, (hview hadm).trans c1.committed, c1.log⟩, ?_, fun _ _ => rfl, ?_⟩
  · intro r' hr' u hu
    obtain ⟨r, hr, hrid, hown⟩ := hsub r' hr'
    rw [hrid]
    exact c1.sinv.stamps r hr u (hown u hu)
  · intro r' hr'
    obtain ⟨r, hr, hrid, _⟩ := hsub r' hr'
    rw [hrid]
    exact c1.sinv.bound r hr
  · intro name tid hn; cases hn
  · intro n1 n2 tid hn; cases hn

theorem quiesce_rel (σ : State) (α : Spec.State) (h : Rel σ α) : Rel (σ.quiesce D0) α.quiesce := by
  unfold State.quiesce
  apply frame_rel σ α h
  · intro r' hr'; exact ⟨r', hr', rfl, fun u hu => hu⟩
  · exact h.core.sinv.sorted
  · intro _; rfl

theorem mem_vacuumRows {V : VDefects} {s : Snapshot} {h : Nat} {rows : List Row} {r' : Row} :
    r' ∈ vacuumRows V s h rows ↔ ∃ r ∈ rows, r.vacuum V s h = some r' := by
  simp [vacuumRows, List.mem_filterMap]

theorem vacuumRows_sorted (V : VDefects) (s : Snapshot) (h : Nat) (rows : List Row)
    (hp : rows.Pairwise (fun a b => ridLt a.rid b.rid)) :
    (vacuumRows V s h rows).Pairwise (fun a b => ridLt a.rid b.rid) := by
  unfold vacuumRows
  apply List.Pairwise.filterMap _ _ hp
  intro a a' haa b hb b' hb'
  rw [Row.vacuum_rid hb, Row.vacuum_rid hb']; exact haa

theorem vacuumRows_view (s S : Snapshot) (h : Nat) (rows : List Row)
    (hS : ∀ r ∈ rows, ∀ u ∈ r.owners, S.sees u = s.cb u ∧ s.aborted.contains u = !s.cb u) :
    view D0 S (vacuumRows V0 s h rows) = view D0 S rows := by
  unfold view vacuumRows
  rw [List.filterMap_filterMap]
  apply filterMap_congr_mem
  intro r hr
  exact Row.vacuum_view s S h r (fun u hu => (hS r hr u hu).1) (fun u hu => (hS r hr u hu).2)

theorem vacuum_eq_frame (σ : State) :
    σ.vacuum D0 V0 = σ.vacuumWith D0 false (vacuumRows V0) (fun _ txns => txns) (vacuumIndex V0) := rfl

theorem vacuum_rel (σ : State) (α : Spec.State) (h : Rel σ α) : Rel (σ.vacuum D0 V0) α.quiesce := by
  rw [vacuum_eq_frame]
  apply frame_rel σ α h
  · intro r' hr'
    obtain ⟨r, hr, hv⟩ := mem_vacuumRows.1 hr'
    exact ⟨r, hr, Row.vacuum_rid hv, Row.vacuum_owners hv⟩
  · exact vacuumRows_sorted V0 _ _ σ.rows h.core.sinv.sorted
  · exact vacuumRows_view _ _ _ σ.rows

/-- Single fields of the vacuumed state are read off the definition: through `vacuumWith_eq_tick` Lean would have to
    normalise the whole `tick` step to find the field. -/
theorem vacuum_sessions (σ : State) : (σ.vacuum D0 V0).sessions = [] := by
  unfold State.vacuum State.vacuumWith
  rw [commitTxn_sessions]; rfl

theorem vacuum_rows (σ : State) : (σ.vacuum D0 V0).rows = vacuumRows V0 (vacSnap σ) σ.lastCommitted σ.rows := by
  unfold State.vacuum State.vacuumWith
  rw [commitTxn_rows]
  show vacuumRows V0 ((σ.killAll.beginTxn D0).1.snapOf σ.killAll.txns.length) σ.lastCommitted σ.rows = _
  rw [snapOf_begin]; rfl

theorem mem_vacuum_rows {σ : State} {r' : Row} :
    r' ∈ (σ.vacuum D0 V0).rows ↔ ∃ r ∈ σ.rows, r.vacuum V0 (vacSnap σ) σ.lastCommitted = some r' := by
  rw [vacuum_rows]; exact mem_vacuumRows

def VRel (τ : VState) (α : Spec.State) : Prop := Rel τ.db α ∧ τ.killed = []

theorem vstep_op {D : Defects} {V : VDefects} {τ : VState} (hk : τ.killed = []) (o : Op) :
    vstep D V τ (.op o) = ({ db := (step D τ.db o).1, killed := [] }, .out (step D τ.db o).2) := by
  obtain ⟨db, k⟩ := τ
  simp only at hk
  subst hk
  cases o <;> rfl

theorem vstep_ok (τ : VState) (α : Spec.State) (h : VRel τ α) (o : VOp) :
    (vstep D0 V0 τ o).2 = .out (Spec.vstep α o).2 ∧ VRel (vstep D0 V0 τ o).1 (Spec.vstep α o).1 := by
  obtain ⟨hr, hk⟩ := h
  cases o with
  | vacuum => exact ⟨rfl, vacuum_rel τ.db α hr, hk⟩
  | reopen => exact ⟨rfl, quiesce_rel τ.db α hr, rfl⟩
  | op o =>
    obtain ⟨ho, hr'⟩ := step_ok τ.db α hr o
    rw [vstep_op hk]
    exact ⟨congrArg VOut.out ho, hr', rfl⟩

theorem vinit_rel (cat : Catalog) : VRel (VState.init cat) (Spec.State.init cat) := ⟨init_rel cat, rfl⟩

theorem vrunFrom_ok : ∀ (ops : List VOp) (τ : VState) (α : Spec.State), VRel τ α →
    vrunFrom D0 V0 τ ops = (Spec.vouts α ops).map VOut.out ∧ VRel (vfinal D0 V0 τ ops) (Spec.vfinal α ops)
  | [], _, _, h => ⟨rfl, h⟩
  | o :: os, τ, α, h => by
    obtain ⟨ho, hr⟩ := vstep_ok τ α h o
    obtain ⟨h1, h2⟩ := vrunFrom_ok os _ _ hr
    simp only [vrunFrom, Spec.vouts, vfinal, Spec.vfinal, List.map_cons]
    exact ⟨by rw [ho, h1], h2⟩

theorem vreach_rel (cat : Catalog) (ops : List VOp) :
    VRel (vfinal D0 V0 (VState.init cat) ops) (Spec.vfinal (Spec.State.init cat) ops) :=
  (vrunFrom_ok ops _ _ (vinit_rel cat)).2

theorem vfinal_append (D : Defects) (V : VDefects) : ∀ (a b : List VOp) (τ : VState),
    vfinal D V τ (a ++ b) = vfinal D V (vfinal D V τ a) b
  | [], _, _ => rfl
  | o :: os, b, τ => by simp [vfinal, vfinal_append D V os b]

theorem vrunFrom_append (D : Defects) (V : VDefects) : ∀ (a b : List VOp) (τ : VState),
    vrunFrom D V τ (a ++ b) = vrunFrom D V τ a ++ vrunFrom D V (vfinal D V τ a) b
  | [], _, _ => rfl
  | o :: os, b, τ => by simp [vrunFrom, vfinal, vrunFrom_append D V os b]

namespace Spec

theorem vouts_append : ∀ (a b : List VOp) (α : State), vouts α (a ++ b) = vouts α a ++ vouts (vfinal α a) b
  | [], _, _ => rfl
  | o :: os, b, α => by simp [vouts, vfinal, vouts_append os b]

theorem vouts_length : ∀ (a : List VOp) (α : State), (vouts α a).length = a.length
  | [], _ => rfl
  | o :: os, α => by simp [vouts, vouts_length os]

theorem vouts_append_right (a b : List VOp) (α : State) (i : Nat) :
    (vouts α (a ++ b))[a.length + i]? = (vouts (vfinal α a) b)[i]? := by
  rw [vouts_append, List.getElem?_append_right (by rw [vouts_length]; exact Nat.le_add_right _ _), vouts_length,
    Nat.add_sub_cancel_left]

theorem vouts_op : ∀ (ms : List Op) (α : State), vouts α (ms.map VOp.op) = outs α ms
  | [], _ => rfl
  | m :: ms, α => by
    simp only [List.map_cons, vouts, outs, vstep]
    rw [vouts_op ms]

end Spec

/-- `σ'` has not touched the transactions that were finished in `σ`.  Every operation, VACUUM and reopen have this property,
    which is why a snapshot taken after any later history agrees with the vacuum snapshot on the transactions that existed
    when VACUUM ran (`later_snapshot_admissible`). -/
def FinishedSame (σ σ' : State) : Prop :=
  ∀ (u : Nat) (t : Txn), σ.txns[u]? = some t → t.status ≠ Status.active → ∃ t', σ'.txns[u]? = some t' ∧ t'.status = t.status

/-- the stronger property of the steps that end no transaction (begin, statements) -/
def SameStatus (σ σ' : State) : Prop :=
  ∀ (u : Nat) (t : Txn), σ.txns[u]? = some t → ∃ t', σ'.txns[u]? = some t' ∧ t'.status = t.status

theorem FinishedSame.refl (σ : State) : FinishedSame σ σ := fun _ t h _ => ⟨t, h, rfl⟩

theorem FinishedSame.trans {a b c : State} (h1 : FinishedSame a b) (h2 : FinishedSame b c) : FinishedSame a c := by
  intro u t ht hna
  obtain ⟨t1, g1, g2⟩ := h1 u t ht hna
  obtain ⟨t2, g3, g4⟩ := h2 u t1 g1 (by rw [g2]; exact hna)
  exact ⟨t2, g3, by rw [g4, g2]⟩

theorem FinishedSame.committed_iff {a b : State} (h : FinishedSame a b) {u : Nat} {t : Txn} (ht : a.txns[u]? = some t)
    (hna : t.status ≠ Status.active) : u < b.txns.length ∧ (b.isCommitted u ↔ a.isCommitted u) := by
  obtain ⟨t', g1, g2⟩ := h u t ht hna
  refine ⟨getElem?_lt g1, ?_, ?_⟩
  · rintro ⟨t2, h2, hs⟩
    rw [g1] at h2; cases h2
    exact ⟨t, ht, g2.symm.trans hs⟩
  · rintro ⟨t2, h2, hs⟩
    rw [ht] at h2; cases h2
    exact ⟨t', g1, g2.trans hs⟩

theorem FinishedSame.committed {a b : State} (h : FinishedSame a b) {u : Nat} (hc : a.isCommitted u) : b.isCommitted u := by
  obtain ⟨t, ht, hst⟩ := hc
  exact (h.committed_iff ht (by rw [hst]; exact fun e => by cases e)).2.2 ⟨t, ht, hst⟩

theorem SameStatus.finished {a b : State} (h : SameStatus a b) : FinishedSame a b := fun u t ht _ => h u t ht

theorem SameStatus.refl (σ : State) : SameStatus σ σ := fun _ t h => ⟨t, h, rfl⟩

theorem SameStatus.trans {a b c : State} (h1 : SameStatus a b) (h2 : SameStatus b c) : SameStatus a c := by
  intro u t ht
  obtain ⟨t1, g1, g2⟩ := h1 u t ht
  obtain ⟨t2, g3, g4⟩ := h2 u t1 g1
  exact ⟨t2, g3, by rw [g4, g2]⟩

theorem FinishedSame.of_txns {σ σ' : State} (h : σ'.txns = σ.txns) : FinishedSame σ σ' := by
  intro u t ht _; exact ⟨t, by rw [h]; exact ht, rfl⟩

theorem sameStatus_begin (σ : State) : SameStatus σ (σ.beginTxn D0).1 := by
  intro u t ht
  exact ⟨t, getElem?_snoc.2 (Or.inl ht), rfl⟩

theorem finishedSame_setStatus (σ : State) (tid : Nat) (st : Status) (lc : Nat) (cl : List (Nat × List Rid))
    (hact : ∀ t, σ.txns[tid]? = some t → t.status = Status.active) :
    FinishedSame σ { σ with txns := setStatus σ.txns tid st, lastCommitted := lc, clog := cl } := by
  intro u t ht hna
  have hne : tid ≠ u := by
    intro e; subst e; exact hna (hact t ht)
  exact ⟨t, setStatus_get_other ht hne, rfl⟩

theorem finishedSame_abort (σ : State) (tid : Nat) (hact : ∀ t, σ.txns[tid]? = some t → t.status = Status.active) :
    FinishedSame σ (σ.abortTxn tid) :=
  finishedSame_setStatus σ tid .aborted σ.lastCommitted σ.clog hact

theorem finishedSame_commit (σ : State) (tid : Nat) (hact : ∀ t, σ.txns[tid]? = some t → t.status = Status.active) :
    FinishedSame σ (σ.commitTxn tid).1 := by
  fun_cases State.commitTxn σ tid
  · exact FinishedSame.refl σ
  · exact finishedSame_setStatus σ tid .aborted σ.lastCommitted σ.clog hact
  · exact finishedSame_setStatus σ tid .committed _ _ hact

theorem finishedSame_commitC (σ : State) (tid : Nat) (hact : ∀ t, σ.txns[tid]? = some t → t.status = Status.active) :
    FinishedSame σ (σ.commitC D0 tid).1 := by
  fun_cases State.commitC D0 σ tid
  · exact finishedSame_abort σ tid hact
  · exact finishedSame_commit σ tid hact
  · exact finishedSame_commit σ tid hact

theorem sameStatus_stmt (σ : State) (tid j : Nat) (st : Stmt) : SameStatus σ (σ.stmt D0 tid j st).1 := by
  rw [stmt_none]
  split
  · exact SameStatus.refl σ
  · rw [write_none]
    intro u t ht
    obtain ⟨t', h1, _, _, h2, _⟩ := modify_ws_get (tid := tid) (w := List.map Effect.rid _) ht
    exact ⟨t', h1, h2⟩

theorem sameStatus_batch (tid : Nat) : ∀ (sts : List Stmt) (σ : State) (j : Nat), SameStatus σ (State.batch D0 σ tid j sts).1
  | [], σ, j => SameStatus.refl σ
  | st :: sts, σ, j => by
    simp only [State.batch]
    cases ho : (σ.stmt D0 tid j st).2.out with
    | err e => dsimp only; exact sameStatus_stmt σ tid j st
    | okN n => dsimp only; exact (sameStatus_stmt σ tid j st).trans (sameStatus_batch tid sts _ _)
    | rows rs => dsimp only; exact (sameStatus_stmt σ tid j st).trans (sameStatus_batch tid sts _ _)

theorem endSession_txns (σ : State) (s : String) : (σ.endSession s).txns = σ.txns := rfl

theorem new_txn_active (σ σ' : State) (hs : SameStatus (σ.beginTxn D0).1 σ') :
    ∀ t, σ'.txns[σ.txns.length]? = some t → t.status = Status.active := by
  intro t ht
  have h0 : (σ.beginTxn D0).1.txns[σ.txns.length]? = some ⟨σ.freshSnap D0, .active, [], σ.clog.length⟩ := by
    simp [State.beginTxn]
  obtain ⟨t', h1, h2⟩ := hs _ _ h0
  rw [ht] at h1; cases h1
  exact h2

theorem stepCore_finished (σ : State)
    (hs : ∀ s tid, lookup s σ.sessions = some tid → ∀ t, σ.txns[tid]? = some t → t.status = Status.active) (op : Op) :
    FinishedSame σ (stepCore D0 σ op).1 := by
  have hb := sameStatus_begin σ
  cases op with
  | begin s =>
    simp only [stepCore]
    cases hl : lookup s σ.sessions with
    | none => exact hb.finished
    | some old =>
      exact (finishedSame_abort σ old (hs s old hl)).trans (sameStatus_begin ((σ.abortTxn old).endSession s)).finished
  | commit s =>
    simp only [stepCore]
    cases hl : lookup s σ.sessions with
    | none => exact FinishedSame.refl σ
    | some tid => exact finishedSame_commitC σ tid (hs s tid hl)
  | rollback s | drop s =>
    simp only [stepCore]
    cases hl : lookup s σ.sessions with
    | none => exact FinishedSame.refl σ
    | some tid => exact finishedSame_abort σ tid (hs s tid hl)
  | exec s st =>
    simp only [stepCore]
    cases hl : lookup s σ.sessions with
    | none => exact FinishedSame.refl σ
    | some tid => exact (sameStatus_stmt σ tid 0 st).finished
  | auto st =>
    simp only [stepCore]
    have hst := sameStatus_stmt (σ.beginTxn D0).1 (σ.beginTxn D0).2 0 st
    have hact := new_txn_active σ _ hst
    split
    · exact (hb.trans hst).finished.trans (finishedSame_abort _ _ hact)
    · exact (hb.trans hst).finished.trans (finishedSame_commitC _ _ hact)
  | batch sts =>
    simp only [stepCore]
    have hst := sameStatus_batch (σ.beginTxn D0).2 sts (σ.beginTxn D0).1 0
    have hact := new_txn_active σ _ hst
    split
    · rename_i σ2 outs e hbt
      rw [show σ2 = (State.batch D0 (σ.beginTxn D0).1 (σ.beginTxn D0).2 0 sts).1 by rw [hbt]]
      exact (hb.trans hst).finished.trans (finishedSame_abort _ _ hact)
    · rename_i σ2 outs hbt
      rw [show σ2 = (State.batch D0 (σ.beginTxn D0).1 (σ.beginTxn D0).2 0 sts).1 by rw [hbt]]
      exact (hb.trans hst).finished.trans (finishedSame_commitC _ _ hact)
  | tick => exact hb.finished.trans (finishedSame_commit _ _ (new_txn_active σ _ (SameStatus.refl _)))
  | nop => exact FinishedSame.refl σ

theorem step_finished (σ : State)
    (hs : ∀ s tid, lookup s σ.sessions = some tid → ∀ t, σ.txns[tid]? = some t → t.status = Status.active) (op : Op) :
    FinishedSame σ (step D0 σ op).1 :=
  (stepCore_finished σ hs op).trans (FinishedSame.of_txns rfl)

theorem finishedSame_killAll (σ : State) : FinishedSame σ σ.killAll := by
  intro u t ht hna
  refine ⟨killTxn t, getElem?_abortAll.2 ⟨t, ht, rfl⟩, ?_⟩
  unfold killTxn; simp [hna]

theorem frame_finished_kill (σ : State) (clean : Snapshot → Nat → List Row → List Row)
    (cix : Snapshot → Index → Index) :
    FinishedSame σ.killAll (σ.vacuumWith D0 false clean (fun _ txns => txns) cix) := by
  rw [vacuumWith_eq_tick]
  exact FinishedSame.trans (FinishedSame.of_txns rfl)
    (step_finished { σ.killAll with rows := clean (vacSnap σ) σ.lastCommitted σ.rows, index := cix (vacSnap σ) σ.index }
      (fun _ _ hl => by cases hl) .tick)

theorem frame_finished (σ : State) (clean : Snapshot → Nat → List Row → List Row)
    (cix : Snapshot → Index → Index) :
    FinishedSame σ (σ.vacuumWith D0 false clean (fun _ txns => txns) cix) :=
  (finishedSame_killAll σ).trans (frame_finished_kill σ clean cix)

theorem vfinal_finished : ∀ (ops : List VOp) (τ : VState) (α : Spec.State), VRel τ α →
    FinishedSame τ.db (vfinal D0 V0 τ ops).db
  | [], _, _, _ => FinishedSame.refl _
  | o :: os, τ, α, h => by
    have h1 : FinishedSame τ.db (vstep D0 V0 τ o).1.db := by
      cases o with
      | vacuum => exact frame_finished τ.db (vacuumRows V0) (vacuumIndex V0)
      | reopen => exact frame_finished τ.db (fun _ _ rows => rows) (fun _ ix => ix)
      | op o =>
        rw [vstep_op h.2]
        refine step_finished τ.db (fun s tid hl t ht => ?_) o
        obtain ⟨a, _, t0, ht0, hact, _⟩ := h.1.sess s tid hl
        rw [ht0] at ht; cases ht; exact hact
    exact h1.trans (vfinal_finished os _ _ (vstep_ok τ α h o).2)

theorem later_snapshot_admissible (τ : VState) (α : Spec.State) (h : VRel τ α) (later : List VOp) (u : Nat)
    (hu : u < τ.db.txns.length) :
    ((vfinal D0 V0 τ (VOp.vacuum :: later)).db.freshSnap D0).sees u = (vacSnap τ.db).cb u ∧
    (vacSnap τ.db).aborted.contains u = !(vacSnap τ.db).cb u := by
  obtain ⟨q1, q2, _⟩ := vacSnap_stamp τ.db h.1.core.cinv hu
  refine ⟨?_, q2⟩
  -- after `abort_all` transaction `u` is finished, so it has the same status after the VACUUM and after `later`
  have hv := (vstep_ok τ α h .vacuum).2
  have hL : VRel (vfinal D0 V0 τ (VOp.vacuum :: later)) (Spec.vfinal α (VOp.vacuum :: later)) := (vrunFrom_ok later _ _ hv).2
  have hfin : FinishedSame τ.db.killAll (vfinal D0 V0 τ (VOp.vacuum :: later)).db :=
    (frame_finished_kill τ.db (vacuumRows V0) (vacuumIndex V0)).trans (vfinal_finished later _ _ hv)
  have hu1 : u < τ.db.killAll.txns.length := by rw [killAll_length]; exact hu
  have hget : τ.db.killAll.txns[u]? = some τ.db.killAll.txns[u] := List.getElem?_eq_getElem hu1
  obtain ⟨hlt, hiff⟩ := hfin.committed_iff hget (killAll_no_active τ.db u _ hget)
  apply Bool.eq_iff_iff.2
  rw [fresh_sees _ hL.1.core.cinv u hlt, q1]
  exact hiff.trans (killAll_committed τ.db u)

def Row.stampedBy (u : Nat) (r : Row) : Nat := (r.versions.filter (fun w => w.creator == u)).length

def stampedBy (u : Nat) : List Row → Nat
  | [] => 0
  | r :: rs => r.stampedBy u + stampedBy u rs

theorem length_le_stamped_add_below (h : Nat) (l : List Version) (hle : ∀ w ∈ l, w.creator ≤ h) :
    l.length = (l.filter (fun w => w.creator == h)).length + belowCount h l := by
  rw [belowCount, ← List.countP_eq_length_filter, ← List.countP_eq_length_filter,
    List.length_eq_countP_add_countP (fun w => w.creator == h)]
  congr 1
  apply List.countP_congr
  intro w hw
  have := hle w hw
  simp only [Bool.not_eq_true, beq_eq_false_iff_ne, ne_eq, decide_eq_true_eq]
  omega

theorem vacuum_row_shape (σ : State) (α : Spec.State) (h : Rel σ α) (r r' : Row) (hr : r ∈ σ.rows)
    (hv : r.vacuum V0 (vacSnap σ) σ.lastCommitted = some r') :
    r'.deleters = [] ∧ r'.versions ≠ [] ∧ (∀ w ∈ r'.versions, σ.isCommitted w.creator ∧ w.creator ≤ σ.lastCommitted) ∧
    r'.versions.Sublist r.versions ∧ belowCount σ.lastCommitted r'.versions ≤ 1 := by
  have hq := fun u (hu : u ∈ r.owners) => vacSnap_stamp σ h.core.cinv (owners_lt σ 0 h.core.sinv r hr u hu)
  have hsub := Row.vacuum_versions_sublist hv
  obtain ⟨rfl, hne, hnd⟩ := Row.vacuum_some hv
  rw [liveVersions_V0] at hne
  rw [deletedForVacuum_V0] at hnd
  refine ⟨?_, ?_, ?_, hsub, belowCount_trimChain _ _⟩
  · -- a delete mark that is not aborted is committed, and then the row would be gone
    apply List.filter_eq_nil_iff.2
    intro d hd hnab
    rw [(hq d (deleter_mem_owners hd)).2.1, Bool.not_not] at hnab
    rw [List.any_eq_true.2 ⟨d, hd, hnab⟩] at hnd
    cases hnd
  · show trimChain _ (liveVersions V0 _ r) ≠ []
    rw [liveVersions_V0]
    cases hl : r.versions.filter (fun v => !(vacSnap σ).aborted.contains v.creator) with
    | nil => rw [hl] at hne; cases hne
    | cons x tl => exact List.cons_ne_nil _ _
  · intro w hw
    have hw' : w ∈ liveVersions V0 (vacSnap σ) r := (trimChain_sublist _ _).subset hw
    rw [liveVersions_V0] at hw'
    obtain ⟨hw1, hw2⟩ := List.mem_filter.1 hw'
    obtain ⟨q1, q2, _⟩ := hq _ (creator_mem_owners hw1)
    rw [q2, Bool.not_not] at hw2
    obtain ⟨t, ht, hst⟩ := q1.1 hw2
    exact ⟨⟨t, ht, hst⟩, h.core.cinv.lc_max _ t ht hst⟩

theorem vacuum_row_size_le (σ : State) (α : Spec.State) (h : Rel σ α) (r r' : Row) (hr : r ∈ σ.rows)
    (hv : r.vacuum V0 (vacSnap σ) σ.lastCommitted = some r') :
    1 ≤ r'.size ∧ r'.size ≤ r.stampedBy σ.lastCommitted + 1 := by
  obtain ⟨s1, s2, s3, s4, s5⟩ := vacuum_row_shape σ α h r r' hr hv
  have hlen := length_le_stamped_add_below σ.lastCommitted r'.versions (fun w hw => (s3 w hw).2)
  have hst : (r'.versions.filter (fun w => w.creator == σ.lastCommitted)).length ≤ r.stampedBy σ.lastCommitted :=
    (s4.filter _).length_le
  unfold Row.size
  rw [s1]
  have hpos : 1 ≤ r'.versions.length := by
    cases hvs : r'.versions with
    | nil => exact (s2 hvs).elim
    | cons x tl => simp
  simp only [List.length_nil, Nat.add_zero]
  omega

theorem sizeRows_vacuum_le (σ : State) (α : Spec.State) (h : Rel σ α) : ∀ (rows : List Row), (∀ r ∈ rows, r ∈ σ.rows) →
    (vacuumRows V0 (vacSnap σ) σ.lastCommitted rows).length ≤ sizeRows (vacuumRows V0 (vacSnap σ) σ.lastCommitted rows) ∧
    sizeRows (vacuumRows V0 (vacSnap σ) σ.lastCommitted rows) ≤
      (vacuumRows V0 (vacSnap σ) σ.lastCommitted rows).length + stampedBy σ.lastCommitted rows
  | [], _ => ⟨Nat.le_refl _, Nat.le_refl _⟩
  | r :: rs, hm => by
    have ih := sizeRows_vacuum_le σ α h rs (fun x hx => hm x (List.mem_cons_of_mem _ hx))
    unfold vacuumRows at ih ⊢
    cases hv : r.vacuum V0 (vacSnap σ) σ.lastCommitted with
    | none => rw [List.filterMap_cons_none hv, stampedBy]; omega
    | some r' =>
      have := vacuum_row_size_le σ α h r r' (hm r (List.mem_cons_self ..)) hv
      rw [List.filterMap_cons_some hv, stampedBy, sizeRows, List.length_cons]
      omega

theorem sizeRows_bounds (k : Nat) : ∀ (rows : List Row), (∀ r ∈ rows, 1 ≤ r.size ∧ r.size ≤ k) →
    rows.length ≤ sizeRows rows ∧ sizeRows rows ≤ k * rows.length
  | [], _ => ⟨Nat.le_refl _, Nat.le_refl _⟩
  | r :: rs, h => by
    have ih := sizeRows_bounds k rs (fun x hx => h x (List.mem_cons_of_mem _ hx))
    have h1 := h r (List.mem_cons_self ..)
    rw [sizeRows, List.length_cons, Nat.mul_add, Nat.mul_one]
    omega

theorem size_vacuum_bounds (σ : State) (α : Spec.State) (h : Rel σ α) (k : Nat)
    (hk : ∀ r ∈ σ.rows, r.stampedBy σ.lastCommitted + 1 ≤ k) :
    (σ.vacuum D0 V0).rows.length ≤ (σ.vacuum D0 V0).size ∧ (σ.vacuum D0 V0).size ≤ k * (σ.vacuum D0 V0).rows.length := by
  unfold State.size
  apply sizeRows_bounds
  intro r' hr'
  obtain ⟨r, hr, hv⟩ := mem_vacuum_rows.1 hr'
  obtain ⟨h1, h2⟩ := vacuum_row_size_le σ α h r r' hr hv
  exact ⟨h1, Nat.le_trans h2 (hk r hr)⟩

theorem size_vacuum_eq_rows (σ : State) (α : Spec.State) (h : Rel σ α)
    (hno : ∀ r ∈ σ.rows, ∀ w ∈ r.versions, w.creator ≠ σ.lastCommitted) :
    (σ.vacuum D0 V0).size = (σ.vacuum D0 V0).rows.length := by
  have := size_vacuum_bounds σ α h 1 (fun r hr => by
    rw [Row.stampedBy, List.filter_eq_nil_iff.2 (fun w hw hc => hno r hr w hw (beq_iff_eq.1 hc))]
    exact Nat.le_refl _)
  omega

/-- two versions per row: the head and the newest version older than the horizon -/
theorem size_vacuum_le_two_rows (σ : State) (α : Spec.State) (h : Rel σ α)
    (htail : ∀ r ∈ σ.rows, ∀ w ∈ r.versions.tail, w.creator ≠ σ.lastCommitted) :
    (σ.vacuum D0 V0).rows.length ≤ (σ.vacuum D0 V0).size ∧ (σ.vacuum D0 V0).size ≤ 2 * (σ.vacuum D0 V0).rows.length := by
  apply size_vacuum_bounds σ α h 2
  intro r hr
  rw [Row.stampedBy]
  cases hvs : r.versions with
  | nil => exact Nat.le_add_left 1 1
  | cons x tl =>
    rw [List.filter_cons, List.filter_eq_nil_iff.2 (fun w hw hc => htail r hr w (by rw [hvs]; exact hw) (beq_iff_eq.1 hc))]
    split
    · exact Nat.le_refl _
    · exact Nat.le_add_left 1 1

theorem vacuum_no_stamp_at_horizon (σ : State) (α : Spec.State) (h : Rel σ α) :
    ∀ r' ∈ (σ.vacuum D0 V0).rows, ∀ u ∈ r'.owners, u < (σ.vacuum D0 V0).lastCommitted := by
  intro r' hr' u hu
  have hlc : (σ.vacuum D0 V0).lastCommitted = σ.txns.length := by
    rw [vacuum_eq_frame, vacuumWith_eq_tick]
    exact Eq.trans (tick_lastCommitted _ (CInv.killAll σ h.core.cinv)) (killAll_length σ)
  rw [hlc]
  obtain ⟨r, hr, hv⟩ := mem_vacuum_rows.1 hr'
  exact owners_lt σ 0 h.core.sinv r hr u (Row.vacuum_owners hv u hu)

/-- the vacuum transaction wrote nothing, so the next VACUUM finds no stamp at its horizon and leaves one version per row -/
theorem size_vacuum_twice (σ : State) (α : Spec.State) (h : Rel σ α) :
    ((σ.vacuum D0 V0).vacuum D0 V0).size = ((σ.vacuum D0 V0).vacuum D0 V0).rows.length :=
  size_vacuum_eq_rows _ _ (vacuum_rel σ α h) (fun r hr _ hw =>
    Nat.ne_of_lt (vacuum_no_stamp_at_horizon σ α h r hr _ (creator_mem_owners hw)))

theorem Row.vacuum_keeps (s : Snapshot) (h : Nat) (r : Row) (hd : r.deleters = []) (hne : r.versions ≠ [])
    (hlive : ∀ v ∈ r.versions, s.aborted.contains v.creator = false) : (r.vacuum V0 s h).isSome = true := by
  rw [Row.vacuum_V0, List.filter_eq_self.2 (fun v hv => by rw [hlive v hv]; rfl), hd]
  cases hvs : r.versions with
  | nil => exact (hne hvs).elim
  | cons x tl => rfl

theorem vacuum_twice_rows_length (σ : State) (α : Spec.State) (h : Rel σ α) :
    ((σ.vacuum D0 V0).vacuum D0 V0).rows.length = (σ.vacuum D0 V0).rows.length := by
  have hr1 := vacuum_rel σ α h
  rw [vacuum_rows (σ.vacuum D0 V0)]
  apply length_filterMap_of_isSome
  intro r1 hr1m
  obtain ⟨r, hr, hv⟩ := mem_vacuum_rows.1 hr1m
  obtain ⟨s1, s2, s3, _⟩ := vacuum_row_shape σ α h r r1 hr hv
  apply Row.vacuum_keeps _ _ _ s1 s2
  intro w hw
  -- committed in `σ`, hence after the VACUUM: the next vacuum snapshot does not list it as aborted
  have hc : (σ.vacuum D0 V0).isCommitted w.creator :=
    (frame_finished σ (vacuumRows V0) (vacuumIndex V0)).committed (s3 w hw).1
  obtain ⟨q1, q2, _⟩ := vacSnap_stamp _ hr1.core.cinv (owners_lt _ 0 hr1.core.sinv r1 hr1m _ (creator_mem_owners hw))
  rw [q2, q1.2 hc]
  rfl

theorem getElem?_forgetAux (h : Nat) : ∀ (txns : List Txn) (k i : Nat),
    (forgetAux h txns k)[i]? =
      (txns[i]?).map (fun t => if k + i < h ∧ t.status = Status.aborted then { t with status := Status.committed } else t)
  | [], _, _ => rfl
  | t :: ts, k, 0 => rfl
  | t :: ts, k, i + 1 => by
    rw [forgetAux, List.getElem?_cons_succ, List.getElem?_cons_succ, getElem?_forgetAux h ts (k + 1) i,
      Nat.add_right_comm, Nat.add_assoc]

theorem length_forgetAux (h : Nat) (txns : List Txn) (k : Nat) : (forgetAux h txns k).length = txns.length := by
  fun_induction forgetAux h txns k
  · rfl
  · next ih => rw [List.length_cons, List.length_cons, ih]

end AxVerif.Db
