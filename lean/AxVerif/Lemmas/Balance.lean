/- Helper lemmas about the rebalancing helpers (Model/Balance.lean). Core Lean only. -/
import AxVerif.Model.Balance
namespace AxVerif.Balance

theorem sum_append (a b : List Nat) : sum (a ++ b) = sum a + sum b := by
  fun_induction sum a with
  | case1 => exact (Nat.zero_add _).symm
  | case2 x xs ih => rw [List.cons_append, sum, ih, Nat.add_assoc]

theorem splitCells_append (sizes : List Nat) : (splitCells sizes).1 ++ (splitCells sizes).2 = sizes := by
  simp [splitCells]

theorem splitIndex_lt {half acc i : Nat} {l : List Nat} (h : splitIndex half acc l = some i) : i < l.length := by
  fun_induction splitIndex half acc l generalizing i with
  | case1 acc => cases h
  | case2 acc s rest hge => cases h; exact Nat.succ_pos _
  | case3 acc s rest hlt ih =>
    obtain ⟨j, hj, rfl⟩ := Option.map_eq_some_iff.mp h
    exact Nat.succ_lt_succ (ih hj)

theorem splitIndex_some {half acc : Nat} {l : List Nat} (hne : l ≠ []) (hsum : half ≤ acc + sum l) :
    ∃ i, splitIndex half acc l = some i := by
  fun_induction splitIndex half acc l with
  | case1 acc => exact absurd rfl hne
  | case2 acc s rest hge => exact ⟨0, rfl⟩
  | case3 acc s rest hlt ih =>
    cases rest with
    | nil => exact absurd hsum hlt
    | cons r rs =>
      obtain ⟨j, hj⟩ := ih (List.cons_ne_nil _ _) (by rw [Nat.add_assoc]; exact hsum)
      exact ⟨j + 1, hj ▸ rfl⟩

/-- `0 +` is the running total `split_cells` starts `splitIndex` with -/
theorem half_le_sum (sizes : List Nat) : (sum sizes + 1) / 2 ≤ 0 + sum sizes := by omega

theorem splitCells_right_ne_nil (sizes : List Nat) (h : sizes ≠ []) : (splitCells sizes).2 ≠ [] := by
  obtain ⟨i, hi⟩ := splitIndex_some h (half_le_sum sizes)
  simp only [splitCells, hi, Option.getD_some]
  exact fun hnil => Nat.not_le_of_lt (splitIndex_lt hi) (List.drop_eq_nil_iff.mp hnil)

theorem splitCells_left_ne_nil (a : Nat) (rest : List Nat) (h : 2 * a < sum (a :: rest)) :
    (splitCells (a :: rest)).1 ≠ [] := by
  obtain ⟨i, hi⟩ := splitIndex_some (List.cons_ne_nil a rest) (half_le_sum (a :: rest))
  simp only [splitCells, hi, Option.getD_some]
  -- the first cell alone does not reach half, so the cut is not before it
  have hnot : ¬ (0 + a ≥ (sum (a :: rest) + 1) / 2) := by omega
  rw [splitIndex, if_neg hnot] at hi
  obtain ⟨j, -, rfl⟩ := Option.map_eq_some_iff.mp hi
  exact List.cons_ne_nil _ _

theorem pack_flat (usable : Nat) (sizes : List Nat) (t : Nat) (cur : List Nat) :
    flat (pack usable sizes t cur) = cur ++ sizes := by
  fun_induction pack usable sizes t cur with
  | case1 t cur => simp [flat]
  | case2 s rest t cur hfit ih => rw [ih, List.append_assoc]; rfl
  | case3 s rest t cur hfit ih => rw [flat, ih]; rfl

theorem pack_loads (usable : Nat) (sizes : List Nat) (t : Nat) (cur : List Nat) (ht : t = sum cur) (hle : t ≤ usable)
    (hall : ∀ s ∈ sizes, s ≤ usable) : ∀ b ∈ pack usable sizes t cur, sum b ≤ usable := by
  fun_induction pack usable sizes t cur with
  | case1 t cur =>
    intro b hb
    cases List.mem_singleton.mp hb
    exact ht ▸ hle
  | case2 s rest t cur hfit ih =>
    exact ih (by rw [sum_append, ← ht]; rfl) hfit (List.forall_mem_cons.mp hall).2
  | case3 s rest t cur hfit ih =>
    obtain ⟨hs, hrest⟩ := List.forall_mem_cons.mp hall
    intro b hb
    rcases List.mem_cons.mp hb with rfl | hb
    · exact ht ▸ hle
    · exact ih rfl hs hrest b hb

theorem length_flat (l : List (List Nat)) : (flat l).length = sum (l.map List.length) := by
  induction l with
  | nil => rfl
  | cons b bs ih => simp [flat, sum, ih]

theorem loads_flat (l : List (List Nat)) : loads (flat l) (l.map List.length) = l.map sum := by
  induction l with
  | nil => rfl
  | cons b bs ih => simp [flat, loads, ih]

theorem pack_flat_nil (usable : Nat) (sizes : List Nat) : flat (pack usable sizes 0 []) = sizes :=
  pack_flat usable sizes 0 []

theorem greedy_count (usable : Nat) (sizes : List Nat) : sum (greedy usable sizes).2 = sizes.length := by
  rw [greedy, ← length_flat, pack_flat_nil]

theorem greedy_spec (usable : Nat) (sizes : List Nat) (h : ∀ s ∈ sizes, s ≤ usable) :
    sum (greedy usable sizes).2 = sizes.length ∧ (greedy usable sizes).1.length = (greedy usable sizes).2.length ∧
      (∀ t ∈ (greedy usable sizes).1, t ≤ usable) ∧ loads sizes (greedy usable sizes).2 = (greedy usable sizes).1 := by
  refine ⟨greedy_count usable sizes, by simp [greedy], ?_, ?_⟩
  · intro t ht
    obtain ⟨b, hb, rfl⟩ := List.mem_map.mp ht
    exact pack_loads usable sizes 0 [] rfl (Nat.zero_le _) h b hb
  · have := loads_flat (pack usable sizes 0 [])
    rwa [pack_flat_nil] at this

theorem sum_set {l : List Nat} {i a : Nat} (v : Nat) (h : l[i]? = some a) : sum (l.set i v) + a = sum l + v := by
  induction l generalizing i with
  | nil => cases h
  | cons x xs ih =>
    cases i with
    | zero =>
      cases h
      show v + sum xs + a = a + sum xs + v
      omega
    | succ i => rw [List.set_cons_succ, sum, sum, Nat.add_assoc, ih h, Nat.add_assoc]

theorem sum_move {l : List Nat} {i j ci cj : Nat} (hi : l[i]? = some ci) (hj : l[j]? = some cj) (hij : j ≠ i)
    (hcj : cj ≠ 0) : sum (setAt (setAt l i (ci + 1)) j (cj - 1)) = sum l := by
  obtain ⟨c, rfl⟩ := Nat.exists_eq_succ_of_ne_zero hcj
  have h1 := sum_set (ci + 1) hi
  have h2 := sum_set (l := l.set i (ci + 1)) c ((List.getElem?_set_ne hij.symm).trans hj)
  show sum ((l.set i (ci + 1)).set j c) = sum l
  omega

theorem fixStep_sum {sizes : List Nat} {i : Nat} {f f' : Fix} (h : fixStep sizes i f = some f') :
    sum f'.cnt = sum f.cnt ∧ f'.div + 1 = f.div := by
  unfold fixStep at h
  split at h
  · next ti ci tl cl sd sl hti hci htl hcl hsd hsl =>
    split at h
    · cases h
    · next hcond =>
      cases h
      have hi : i ≠ 0 := fun h0 => hcond (Or.inl h0)
      have hd : f.div ≠ 0 := fun h0 => hcond (Or.inr (Or.inl h0))
      have hc : cl ≠ 0 := fun h0 => hcond (Or.inr (Or.inr (Or.inl h0)))
      exact ⟨sum_move hci hcl (Nat.ne_of_lt (Nat.pred_lt hi)) hc, Nat.sub_add_cancel (Nat.pos_of_ne_zero hd)⟩
  · cases h

theorem fixPageR_spec (sizes : List Nat) (under i fuel : Nat) (f : Fix) :
    (∀ f', fixPageR sizes under i fuel f = .done f' → sum f'.cnt = sum f.cnt) ∧
      (f.div + 1 < fuel → fixPageR sizes under i fuel f ≠ .outOfFuel) := by
  fun_induction fixPageR sizes under i fuel f with
  | case1 f => exact ⟨nofun, fun h => absurd h (Nat.not_lt_zero _)⟩
  | case2 fuel f hnone => exact ⟨nofun, fun _ => nofun⟩
  | case3 fuel f ti hti hlt hpanic => exact ⟨nofun, fun _ => nofun⟩
  | case4 fuel f ti hti hlt f1 hstep ih =>
    have hs := fixStep_sum hstep
    exact ⟨fun f' h => by rw [ih.1 f' h, hs.1], fun hlt => ih.2 (by omega)⟩
  | case5 fuel f ti hti hge => exact ⟨fun f' h => by cases h; rfl, fun _ => nofun⟩

theorem fixAll_sum (sizes : List Nat) (under fuel : Nat) : ∀ (i : Nat) (f f' : Fix),
    fixAll sizes under fuel i f = some f' → sum f'.cnt = sum f.cnt := by
  intro i
  induction i with
  | zero => intro f f' h; simp only [fixAll, Option.some.injEq] at h; subst h; rfl
  | succ i ih =>
    intro f f' h
    simp only [fixAll, Option.bind_eq_some_iff] at h
    obtain ⟨f1, h1, h2⟩ := h
    simp only [fixPage] at h1
    split at h1
    · next f1' hdone =>
      cases h1
      rw [ih f1 f' h2, (fixPageR_spec sizes under (i + 1) fuel f).1 f1 hdone]
    · cases h1

theorem bestDistribution_sum (usable under : Nat) (sizes tot cnt : List Nat)
    (h : bestDistribution usable under sizes = some (tot, cnt)) : sum cnt = sizes.length := by
  have hg := greedy_count usable sizes
  unfold bestDistribution at h
  generalize greedy usable sizes = g at h hg
  obtain ⟨gt, gc⟩ := g
  simp only at h hg
  by_cases h2 : gc.length ≥ 2
  · rw [if_pos h2] at h
    by_cases h3 : sizes.length < gc.getLastD 0 + 1
    · rw [if_pos h3] at h; cases h
    · rw [if_neg h3] at h
      split at h
      · cases h
      · next f hfix =>
        have hs : sum f.cnt = sum gc := fixAll_sum _ _ _ _ _ _ hfix
        split at h
        · next t0 c0 c1 _ hc0 hc1 =>
          by_cases h4 : t0 < under
          · rw [if_pos h4] at h
            by_cases h5 : c1 = 0
            · rw [if_pos h5] at h; cases h
            · -- the left bias moves one cell from the second page to the first
              rw [if_neg h5] at h
              cases h
              rw [sum_move hc0 hc1 Nat.one_ne_zero h5, hs, hg]
          · rw [if_neg h4] at h
            cases h
            rw [hs, hg]
        · cases h
  · rw [if_neg h2] at h
    cases h
    exact hg

end AxVerif.Balance
