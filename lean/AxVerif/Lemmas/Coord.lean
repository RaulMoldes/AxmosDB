/-
  Invariant of the atomic `begin` (Model/Coord.lean): every snapshot counts only committed transactions as committed.
-/
import AxVerif.Model.Coord
namespace AxVerif.Coord

theorem statusOf_cons (e : Nat × Status) (es : List (Nat × Status)) (y : Nat) :
    statusOf (e :: es) y = if e.1 = y then some e.2 else statusOf es y := by
  unfold statusOf
  rw [List.find?_cons]
  by_cases h : e.1 = y
  · rw [if_pos h, beq_iff_eq.2 h]; rfl
  · rw [if_neg h, beq_eq_false_iff_ne.2 h]

theorem statusOf_append_of_some {t : List (Nat × Status)} {x : Nat} {st : Status} (e : Nat × Status)
    (h : statusOf t x = some st) : statusOf (t ++ [e]) x = some st := by
  induction t with
  | nil => exact nomatch h
  | cons d ds ih =>
    rw [statusOf_cons] at h
    rw [List.cons_append, statusOf_cons]
    by_cases hd : d.1 = x
    · rw [if_pos hd] at h ⊢
      exact h
    · rw [if_neg hd] at h ⊢
      exact ih h

theorem statusOf_setStatus_of_ne {x y : Nat} (hyx : y ≠ x) (st : Status) (t : List (Nat × Status)) :
    statusOf (setStatus x st t) y = statusOf t y := by
  fun_induction setStatus x st t with
  | case1 => rfl
  | case2 e es hex => rw [statusOf_cons, statusOf_cons, if_neg (Ne.symm hyx), if_neg (beq_iff_eq.1 hex ▸ Ne.symm hyx)]
  | case3 e es hex ih => rw [statusOf_cons, statusOf_cons, ih]

theorem ids_setStatus (x : Nat) (st : Status) (t : List (Nat × Status)) : (setStatus x st t).map (·.1) = t.map (·.1) := by
  fun_induction setStatus x st t with
  | case1 => rfl
  | case2 e es hex => rw [List.map_cons, List.map_cons, beq_iff_eq.1 hex]
  | case3 e es hex ih => rw [List.map_cons, List.map_cons, ih]

theorem statusOf_of_mem {t : List (Nat × Status)} {x : Nat} {st : Status} (hnd : (t.map (·.1)).Nodup)
    (h : (x, st) ∈ t) : statusOf t x = some st := by
  induction t with
  | nil => exact nomatch h
  | cons e es ih =>
    rw [List.map_cons, List.nodup_cons] at hnd
    rw [statusOf_cons]
    rcases List.mem_cons.1 h with rfl | h'
    · exact if_pos rfl
    · have hne : e.1 ≠ x := fun he => hnd.1 (he ▸ List.mem_map.2 ⟨(x, st), h', rfl⟩)
      rw [if_neg hne]
      exact ih hnd.2 h'

theorem mem_of_statusOf {t : List (Nat × Status)} {x : Nat} {st : Status} (h : statusOf t x = some st) :
    (x, st) ∈ t := by
  induction t with
  | nil => exact nomatch h
  | cons e es ih =>
    rw [statusOf_cons] at h
    by_cases he : e.1 = x
    · rw [if_pos he] at h
      cases h
      cases he
      exact List.mem_cons_self
    · rw [if_neg he] at h
      exact List.mem_cons_of_mem _ (ih h)

theorem mem_idsWith {t : List (Nat × Status)} {x : Nat} {st : Status} : x ∈ idsWith st t ↔ (x, st) ∈ t := by
  unfold idsWith
  simp only [List.mem_map, List.mem_filter, beq_iff_eq]
  constructor
  · rintro ⟨⟨y, s⟩, ⟨hm, hs⟩, rfl⟩
    simp only at hs
    exact hs ▸ hm
  · intro h
    exact ⟨(x, st), ⟨h, rfl⟩, rfl⟩

/-- `none_pending`: without the defect `alloc`, `snap` and `register` are disabled, so no `begin` is ever half done -/
structure Inv (σ : State) : Prop where
  ids : σ.table.map (·.1) = List.range σ.nextId
  last : σ.lastCommitted < σ.nextId
  none_pending : σ.allocated = [] ∧ σ.snapped = []
  sound : ∀ s ∈ σ.snaps, ∀ x, s.cb x = true → statusOf σ.table x = some .committed

theorem inv_init : Inv State.init := by
  refine ⟨by decide, by decide, ⟨rfl, rfl⟩, ?_⟩
  intro s hs
  simp [State.init] at hs

theorem registered {σ : State} (h : Inv σ) {x : Nat} (hx : x < σ.nextId) : ∃ st, statusOf σ.table x = some st := by
  have : x ∈ σ.table.map (·.1) := by rw [h.ids]; exact List.mem_range.2 hx
  obtain ⟨⟨y, st⟩, hm, rfl⟩ := List.mem_map.1 this
  exact ⟨st, statusOf_of_mem (h.ids ▸ List.nodup_range) hm⟩

theorem lt_of_statusOf {σ : State} (h : Inv σ) {x : Nat} {st : Status} (hst : statusOf σ.table x = some st) :
    x < σ.nextId :=
  List.mem_range.1 (h.ids ▸ List.mem_map.2 ⟨(x, st), mem_of_statusOf hst, rfl⟩)

theorem inv_setStatus {σ : State} (h : Inv σ) {x : Nat} (hact : statusOf σ.table x = some .active) (st : Status)
    (lc : Nat) (hlc : lc < σ.nextId) : Inv { σ with table := setStatus x st σ.table, lastCommitted := lc } := by
  refine ⟨(ids_setStatus x st σ.table).trans h.ids, hlc, h.none_pending, ?_⟩
  intro s hsm y hcb
  have hy := h.sound s hsm y hcb
  have hyx : y ≠ x := fun e => by rw [e, hact] at hy; cases hy
  exact (statusOf_setStatus_of_ne hyx st σ.table).trans hy

theorem inv_step {σ σ' : State} {op : Op} (h : Inv σ) (hs : step Defects.none σ op = some σ') : Inv σ' := by
  revert hs
  fun_cases step Defects.none σ op with
  -- `alloc`, `snap`, `register` going through: only with the defect
  | case2 hD | case4 x hD | case6 x s hfind hD => exact nomatch hD
  -- an operation that is not enabled
  | case3 | case5 | case7 | case8 | case10 | case12 => exact nofun
  -- `commit`, `abort` of an active transaction, `begin`
  | case9 x hact =>
    intro hs
    cases hs
    exact inv_setStatus h hact _ _ (Nat.max_lt.2 ⟨h.last, lt_of_statusOf h hact⟩)
  | case11 x hact =>
    intro hs
    cases hs
    exact inv_setStatus h hact .aborted _ h.last
  | case1 =>
    intro hs
    cases hs
    refine ⟨?_, ?_, h.none_pending, ?_⟩
    · rw [List.map_append, h.ids, List.range_succ]
      rfl
    · exact Nat.lt_succ_of_lt h.last
    · intro s hsm x hcb
      rcases List.mem_cons.1 hsm with rfl | hold
      · -- the new snapshot: x ≤ lastCommitted, registered, neither active nor aborted
        change (σ.takeSnap σ.nextId).cb x = true at hcb
        simp only [Snap.cb, State.takeSnap, Bool.and_eq_true, Bool.not_eq_true', decide_eq_false_iff_not,
          List.contains_eq_mem] at hcb
        obtain ⟨⟨hle, hna⟩, hnb⟩ := hcb
        have hle' : x ≤ σ.lastCommitted := by
          have : ¬ σ.lastCommitted < x := of_decide_eq_false hle
          exact Nat.le_of_not_lt this
        have hlt : x < σ.nextId := Nat.lt_of_le_of_lt hle' h.last
        obtain ⟨st, hst⟩ := registered h hlt
        apply statusOf_append_of_some
        cases st with
        | committed => exact hst
        | active => exact (hna (mem_idsWith.2 (mem_of_statusOf hst))).elim
        | aborted => exact (hnb (mem_idsWith.2 (mem_of_statusOf hst))).elim
      · exact statusOf_append_of_some _ (h.sound s hold x hcb)

theorem inv_reachable {σ : State} (hr : Reachable Defects.none σ) : Inv σ := by
  induction hr with
  | init => exact inv_init
  | step _ hs ih => exact inv_step ih hs

theorem reachable_runOps {D : Defects} (ops : List Op) {σ : State} (h : Reachable D σ) : Reachable D (runOps D σ ops) := by
  fun_induction runOps D σ ops with
  | case1 σ => exact h
  | case2 σ op ops hs => exact h
  | case3 σ op ops σ' hs ih => exact ih (Reachable.step h hs)

end AxVerif.Coord
