/-
  Helper lemmas for `Thm/C13.bounded_growth`: one autocommit statement stacks at most one new version on a row, so that the
  VACUUM that follows leaves the head and at most one older version of every row.  `Defects.none`, `VDefects.none`.
-/
import AxVerif.Lemmas.Vacuum
namespace AxVerif.Db

def Effect.isIns : Effect → Bool
  | .ins _ _ _ => true
  | _ => false

def updRids : List Effect → List Rid
  | [] => []
  | .upd rid _ _ :: es => rid :: updRids es
  | _ :: es => updRids es

theorem planIns_updRids (ts : TableSchema) (c : Nat) (rows : List (List Val)) (pb : Option Probe) (v : View) (j : Nat) :
    updRids (planIns ts c pb v rows j).effs = [] := by
  fun_induction planIns ts c pb v rows j
  · rfl
  · rfl
  · rfl
  · rfl
  · next ih => exact ih

theorem planDel_updRids (t : String) (p : Option (Nat × CmpOp × Val)) (rs : List ARow) :
    updRids (planDel t p rs).effs = [] := by
  fun_induction planDel t p rs
  · rfl
  · next ih => exact ih
  · next ih => exact ih

theorem planUpd_effs (ts : TableSchema) (ci : Nat) (col : Col) (add : Bool) (x : Val) (p : Option (Nat × CmpOp × Val))
    (pb : Option Probe) (v : View) (rs : List ARow) :
    (∀ e ∈ (planUpd ts ci col add x p pb v rs).effs, Effect.isIns e = false) ∧
    (updRids (planUpd ts ci col add x p pb v rs).effs).Sublist (rs.map (·.rid)) := by
  fun_induction planUpd ts ci col add x p pb v rs
  · exact ⟨(fun _ h => nomatch h), List.Sublist.refl _⟩
  · exact ⟨(fun _ h => nomatch h), List.nil_sublist _⟩
  · exact ⟨(fun _ h => nomatch h), List.nil_sublist _⟩
  · exact ⟨(fun _ h => nomatch h), List.nil_sublist _⟩
  · exact ⟨fun e' h => (by rw [List.mem_singleton.1 h]; rfl), (List.nil_sublist _).cons_cons _⟩
  · next ih => exact ⟨fun e' h => (List.mem_cons.1 h).elim (fun h => h ▸ rfl) (ih.1 e'), ih.2.cons_cons _⟩
  · next ih => exact ⟨ih.1, ih.2.cons _⟩
theorem sorted_rids_nodup (v : View) (h : SortedV v) : (v.map (·.rid)).Nodup := by
  unfold SortedV at h
  rw [List.Nodup, List.pairwise_map]
  exact h.imp (fun {a b} hab e => by rw [e] at hab; exact ridLt_irrefl _ hab)

theorem planStmt_effs (pb : Option Probe) (cat : Catalog) (c j : Nat) (v : View) (hv : SortedV v) (st : Stmt) :
    updRids (planStmt pb cat c j v st).effs = [] ∨
    ((∀ e ∈ (planStmt pb cat c j v st).effs, Effect.isIns e = false) ∧ (updRids (planStmt pb cat c j v st).effs).Nodup) := by
  fun_cases planStmt pb cat c j v st
  case case6 => exact Or.inl (planIns_updRids ..)     -- INSERT that is planned
  case case10 =>                                       -- UPDATE that is planned: one effect per row of the scan
    exact Or.inr ⟨(planUpd_effs ..).1, (planUpd_effs ..).2.nodup (sorted_rids_nodup v hv)⟩
  case case13 => exact Or.inl (planDel_updRids ..)    -- DELETE that is planned
  all_goals exact Or.inl rfl                            -- SELECT, and every statement refused before planning

def TailP (P : Nat → Prop) (r : Row) : Prop := ∀ w ∈ r.versions.tail, P w.creator

theorem delete_versions (s : Snapshot) (r : Row) : (r.delete D0 s).versions = r.versions := by
  rw [delete_none]; split <;> rfl

theorem delete_rid (s : Snapshot) (r : Row) : (r.delete D0 s).rid = r.rid := by
  rw [delete_none]; split <;> rfl

theorem update_rid (s : Snapshot) (c : Nat) (x : Val) (r : Row) : (r.update D0 s c x).rid = r.rid := by
  rw [update_none]; split <;> rfl

/-- Effects that either hold no UPDATE (existing chains are untouched, new rows have one version) or hold no INSERT and their
    UPDATEs go to pairwise different rows (every chain grows by at most its new head): below the heads there is only what was
    stored before.  For the rows still to be updated the head, too, has to be old. -/
theorem tail_applyEffects (P : Nat → Prop) (s : Snapshot) : ∀ (es : List Effect) (rows : List Row),
    (updRids es = [] ∨ ((∀ e ∈ es, e.isIns = false) ∧ (updRids es).Nodup)) →
    (∀ r ∈ rows, TailP P r ∧ (r.rid ∈ updRids es → ∀ w ∈ r.versions, P w.creator)) →
    ∀ r' ∈ applyEffects D0 s rows es, TailP P r'
  | [], _, _, h => fun r hr => (h r hr).1
  | e :: es, rows, hes, h => by
    simp only [applyEffects, List.foldl_cons]
    cases e with
    | ins rid t vals =>
      -- an INSERT can only stand in a list without UPDATE
      have hu : updRids es = [] := by
        rcases hes with hu | ⟨hni, _⟩
        · exact hu
        · exact nomatch hni _ (List.mem_cons_self ..)
      apply tail_applyEffects P s es _ (Or.inl hu)
      intro r hr
      rw [hu]
      refine ⟨?_, fun hm => nomatch hm⟩
      rcases List.mem_append.1 hr with hr | hr
      · exact (h r hr).1
      · rw [List.mem_singleton.1 hr]; exact fun w hw => nomatch hw
    | del rid =>
      apply tail_applyEffects P s es _ (hes.imp id (fun ⟨hni, hnd⟩ => ⟨fun e' he' => hni e' (List.mem_cons_of_mem _ he'), hnd⟩))
      intro r hr
      obtain ⟨r0, hr0, rfl⟩ := List.mem_map.1 hr
      obtain ⟨h1, h2⟩ := h r0 hr0
      simp only [Row.apply]
      split
      · refine ⟨?_, ?_⟩
        · intro w hw; rw [delete_versions] at hw; exact h1 w hw
        · intro hm w hw; rw [delete_versions] at hw; rw [delete_rid] at hm; exact h2 hm w hw
      · exact ⟨h1, h2⟩
    | upd rid c x =>
      obtain ⟨hni, hnd⟩ : (∀ e' ∈ Effect.upd rid c x :: es, e'.isIns = false) ∧ (rid :: updRids es).Nodup :=
        hes.resolve_left (fun hu => nomatch hu)
      rw [List.nodup_cons] at hnd
      apply tail_applyEffects P s es _ (Or.inr ⟨fun e' he' => hni e' (List.mem_cons_of_mem _ he'), hnd.2⟩)
      intro r hr
      obtain ⟨r0, hr0, rfl⟩ := List.mem_map.1 hr
      obtain ⟨h1, h2⟩ := h r0 hr0
      simp only [Row.apply]
      split
      · rename_i hrid
        have hall : ∀ w ∈ r0.versions, P w.creator := h2 (List.mem_cons.2 (Or.inl hrid))
        refine ⟨?_, ?_⟩
        · rw [update_none]
          split
          · exact h1
          · exact hall
        · intro hm
          rw [update_rid, hrid] at hm
          exact (hnd.1 hm).elim
      · exact ⟨h1, fun hm => h2 (List.mem_cons_of_mem _ hm)⟩

theorem abortTxn_rows (σ : State) (tid : Nat) : (σ.abortTxn tid).rows = σ.rows := rfl

theorem commitC_rows (σ : State) (tid : Nat) : (σ.commitC D0 tid).1.rows = σ.rows := by
  fun_cases State.commitC D0 σ tid
  · rfl
  · exact commitTxn_rows σ tid
  · exact commitTxn_rows σ tid

theorem commitTxn_lastCommitted (σ : State) (tid : Nat) :
    (σ.commitTxn tid).1.lastCommitted = σ.lastCommitted ∨ (σ.commitTxn tid).1.lastCommitted = tid := by
  fun_cases State.commitTxn σ tid
  · exact Or.inl rfl
  · exact Or.inl rfl
  · show (if tid > σ.lastCommitted then tid else σ.lastCommitted) = _ ∨ (if tid > σ.lastCommitted then tid else σ.lastCommitted) = _
    split
    · exact Or.inr rfl
    · exact Or.inl rfl

theorem commitC_lastCommitted (σ : State) (tid : Nat) :
    (σ.commitC D0 tid).1.lastCommitted = σ.lastCommitted ∨ (σ.commitC D0 tid).1.lastCommitted = tid := by
  fun_cases State.commitC D0 σ tid
  · exact Or.inl rfl
  · exact commitTxn_lastCommitted σ tid
  · exact commitTxn_lastCommitted σ tid

theorem sorted_view' (s : Snapshot) (rows : List Row) (h : rows.Pairwise (fun a b => ridLt a.rid b.rid)) :
    SortedV (view D0 s rows) := sorted_view s rows h

theorem auto_cases (σ : State) (st : Stmt) :
    ((step D0 σ (.auto st)).1.rows = σ.rows ∨ ∃ s : Snapshot, (step D0 σ (.auto st)).1.rows =
        applyEffects D0 s σ.rows (planStmt none σ.cat σ.clock 0 (view D0 s σ.rows) st).effs) ∧
    ((step D0 σ (.auto st)).1.lastCommitted = σ.lastCommitted ∨ (step D0 σ (.auto st)).1.lastCommitted = σ.txns.length) := by
  have hP : (((σ.beginTxn D0).1.stmt D0 (σ.beginTxn D0).2 0 st).1.rows = σ.rows ∨ ∃ s : Snapshot,
        ((σ.beginTxn D0).1.stmt D0 (σ.beginTxn D0).2 0 st).1.rows =
          applyEffects D0 s σ.rows (planStmt none σ.cat σ.clock 0 (view D0 s σ.rows) st).effs) ∧
      ((σ.beginTxn D0).1.stmt D0 (σ.beginTxn D0).2 0 st).1.lastCommitted = σ.lastCommitted := by
    rw [stmt_none]
    split
    · exact ⟨Or.inl rfl, rfl⟩
    · rw [write_none]; exact ⟨Or.inr ⟨_, rfl⟩, rfl⟩
  -- after the statement: rollback, or commit with its two outcomes; neither touches the rows
  simp only [step, stepCore]
  split
  · exact ⟨hP.1, Or.inl hP.2⟩
  · refine ⟨?_, ?_⟩
    · show (State.commitC D0 _ _).1.rows = _ ∨ ∃ s : Snapshot, (State.commitC D0 _ _).1.rows = _
      rw [commitC_rows]; exact hP.1
    · show (State.commitC D0 _ _).1.lastCommitted = _ ∨ (State.commitC D0 _ _).1.lastCommitted = _
      rcases commitC_lastCommitted ((σ.beginTxn D0).1.stmt D0 (σ.beginTxn D0).2 0 st).1 (σ.beginTxn D0).2 with e | e
      · exact Or.inl (e.trans hP.2)
      · exact Or.inr e

theorem auto_tail (σ : State) (hs : σ.rows.Pairwise (fun a b => ridLt a.rid b.rid)) (st : Stmt) (P : Nat → Prop)
    (hP : ∀ r ∈ σ.rows, ∀ w ∈ r.versions, P w.creator) :
    ∀ r ∈ (step D0 σ (.auto st)).1.rows, TailP P r := by
  have h0 : ∀ r ∈ σ.rows, TailP P r := fun r hr w hw => hP r hr w (List.mem_of_mem_tail hw)
  rcases (auto_cases σ st).1 with e | ⟨s, e⟩
  · rw [e]; exact h0
  · rw [e]
    have hsv : SortedV (view D0 s σ.rows) := sorted_view s σ.rows hs
    exact tail_applyEffects P s _ σ.rows (planStmt_effs none σ.cat σ.clock 0 (view D0 s σ.rows) hsv st)
      (fun r hr => ⟨h0 r hr, fun _ => hP r hr⟩)

end AxVerif.Db
