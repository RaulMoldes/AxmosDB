/-
  Helper lemmas for the value model (C19): IEEE binary64 on bit patterns — monotonicity of the decoding,
  IEEE comparison = comparison of exact values, exactness of round-to-nearest-even on what is representable.
-/
import AxVerif.Lemmas.ValueOrder
namespace AxVerif.Value
open AxVerif Std

/-- A float with exponent field `e` and fraction `fr < P = 2^mbits` lies below the start `P·2^e` of the next binade … -/
theorem sig_mul_lt (P e fr : Nat) (h : fr < P) : (if e = 0 then fr else P + fr) * 2 ^ (max e 1 - 1) < P * 2 ^ e := by
  by_cases he : e = 0
  · rw [if_pos he, he]; exact Nat.mul_lt_mul_of_lt_of_le h (Nat.le_refl _) Nat.one_pos
  · have hp : 2 ^ e = 2 * 2 ^ (e - 1) := by rw [← Nat.pow_succ', Nat.succ_eq_add_one, Nat.sub_add_cancel (Nat.pos_of_ne_zero he)]
    rw [if_neg he, Nat.max_eq_left (Nat.pos_of_ne_zero he), hp, ← Nat.mul_assoc, Nat.mul_two]
    exact Nat.mul_lt_mul_of_lt_of_le (Nat.add_lt_add_left h P) (Nat.le_refl _) (Nat.two_pow_pos _)

/-- … and, unless subnormal, not below the start `P·2^(e-1)` of its own. -/
theorem le_sig_mul (P e fr : Nat) (he : e ≠ 0) : P * 2 ^ (e - 1) ≤ (if e = 0 then fr else P + fr) * 2 ^ (max e 1 - 1) := by
  rw [if_neg he, Nat.max_eq_left (Nat.pos_of_ne_zero he)]
  exact Nat.mul_le_mul_right _ (Nat.le_add_right _ _)

theorem pow_le_pow2 {a b : Nat} (h : a ≤ b) : 2 ^ a ≤ 2 ^ b := Nat.pow_le_pow_right (by omega) h

theorem sig_mul_mono (P ea fa eb fb : Nat) (hfa : fa < P) (h : ea < eb ∨ (ea = eb ∧ fa < fb)) :
    (if ea = 0 then fa else P + fa) * 2 ^ (max ea 1 - 1) < (if eb = 0 then fb else P + fb) * 2 ^ (max eb 1 - 1) := by
  rcases h with h | ⟨rfl, h⟩
  · exact Nat.lt_of_lt_of_le (sig_mul_lt P ea fa hfa)
      (Nat.le_trans (Nat.mul_le_mul_left _ (pow_le_pow2 (by omega))) (le_sig_mul P eb fb (by omega)))
  · exact Nat.mul_lt_mul_of_lt_of_le (by split <;> omega) (Nat.le_refl _) (Nat.two_pow_pos _)

theorem f64_scaledMag_def (a : Nat) (ha : a < 9223372036854775808) :
    f64.scaledMag a =
      (if a / 4503599627370496 = 0 then a % 4503599627370496 else 4503599627370496 + a % 4503599627370496)
        * 2 ^ (max (a / 4503599627370496) 1 - 1) := by
  have h1 : a / 4503599627370496 % 2048 = a / 4503599627370496 := Nat.mod_eq_of_lt (by omega)
  simp only [FloatFmt.scaledMag, FloatFmt.sig, FloatFmt.expField, FloatFmt.frac, FloatFmt.scaleOff, FloatFmt.bias, f64,
    Nat.reducePow, Nat.reduceSub, Nat.reduceAdd, Nat.add_zero, h1]

theorem f64_scaledMag_mono (a b : Nat) (hb : b < 9223372036854775808) (h : a < b) :
    f64.scaledMag a < f64.scaledMag b := by
  rw [f64_scaledMag_def a (by omega), f64_scaledMag_def b hb]
  exact sig_mul_mono _ _ _ _ _ (Nat.mod_lt _ (by decide)) (by omega)
theorem f64_infMag : f64.infMag = 9218868437227405312 := by decide
theorem f64_signBit : f64.signBit = 9223372036854775808 := by decide
theorem f64_quietBit : f64.quietBit = 2251799813685248 := by decide
theorem f64_bias : f64.bias = 1023 := by decide
theorem f64_scaleOff : f64.scaleOff = 0 := by decide
theorem f64_scaledMag_zero : f64.scaledMag 0 = 0 := by decide

theorem f64_mag_lt (b : Nat) : f64.mag b < 9223372036854775808 := by
  rw [FloatFmt.mag, f64_signBit]; exact Nat.mod_lt _ (by decide)

namespace FloatFmt
theorem expField_mag (f : FloatFmt) (b : Nat) : f.expField (f.mag b) = f.expField b := by
  rw [expField, expField, mag, signBit, Nat.add_comm, Nat.pow_add, Nat.mod_mul_right_div_self, Nat.mod_mod]
theorem frac_mag (f : FloatFmt) (b : Nat) : f.frac (f.mag b) = f.frac b := by
  rw [frac, frac, mag, signBit, Nat.add_comm, Nat.pow_add, Nat.mod_mul_right_mod]
theorem scaledMag_mag (f : FloatFmt) (b : Nat) : f.scaledMag (f.mag b) = f.scaledMag b := by
  rw [scaledMag, scaledMag, sig, sig, expField_mag, frac_mag]
end FloatFmt

def signed (n : Bool) (m : Nat) : Int := if n then -(m : Int) else m

/-- the exact value of a non-NaN pattern with sign `n` and magnitude `m`, where `I` is the magnitude of infinity and
    `s` decodes finite magnitudes -/
def signedExt (I : Nat) (s : Nat → Nat) (n : Bool) (m : Nat) : Ext :=
  if m = I then (if n then .negInf else .posInf) else .fin (signed n (s m))

section
variable {I : Nat} {s : Nat → Nat}

theorem signedExt_lt (hs : ∀ a b, b ≤ I → a < b → s a < s b) (h0 : s 0 = 0) {na nb : Bool} {ma mb : Nat}
    (ha : ma ≤ I) (hb : mb ≤ I) (h : signed na ma < signed nb mb) :
    Ext.cmp (signedExt I s na ma) (signedExt I s nb mb) = .lt := by
  have hpos : ∀ m, m ≤ I → 0 < m → 0 < s m := fun m hm h => h0 ▸ hs 0 m hm h
  unfold signedExt
  cases na <;> cases nb <;> simp only [signed, Bool.false_eq_true, if_false, if_true] at h ⊢
  · have hlt : ma < mb := by omega
    rw [if_neg (by omega)]
    split
    · rfl
    · exact (icmp_lt_iff _ _).mpr (by have := hs ma mb hb hlt; omega)
  · omega
  · have := hpos mb hb
    have := hpos ma ha
    split <;> split <;> first | rfl | exact (icmp_lt_iff _ _).mpr (by omega)
  · have hlt : mb < ma := by omega
    rw [if_neg (show ¬ mb = I by omega)]
    split
    · rfl
    · exact (icmp_lt_iff _ _).mpr (by have := hs mb ma ha hlt; omega)

theorem signedExt_eq (hI : 0 < I) (h0 : s 0 = 0) {na nb : Bool} {ma mb : Nat} (h : signed na ma = signed nb mb) :
    signedExt I s na ma = signedExt I s nb mb := by
  have hz : ∀ n, signedExt I s n 0 = .fin 0 := fun n => by
    rw [signedExt, if_neg (Nat.ne_of_lt hI), h0]; cases n <;> rfl
  cases na <;> cases nb <;> simp only [signed, Bool.false_eq_true, if_false, if_true] at h
  · rw [show ma = mb by omega]
  · rw [show ma = 0 by omega, show mb = 0 by omega, hz, hz]
  · rw [show ma = 0 by omega, show mb = 0 by omega, hz, hz]
  · rw [show ma = mb by omega]

theorem signedExt_cmp (hI : 0 < I) (hs : ∀ a b, b ≤ I → a < b → s a < s b) (h0 : s 0 = 0) {na nb : Bool} {ma mb : Nat}
    (ha : ma ≤ I) (hb : mb ≤ I) :
    Ext.cmp (signedExt I s na ma) (signedExt I s nb mb) = icmp (signed na ma) (signed nb mb) :=
  cmp_eq_icmp (signedExt_lt hs h0 ha hb) (signedExt_lt hs h0 hb ha) (signedExt_eq hI h0)
end

theorem f64_ext_def (x : Nat) (hx : f64.isNaN x = false) :
    f64.ext x = signedExt 9218868437227405312 f64.scaledMag (f64.isNeg x) (f64.mag x) := by
  unfold FloatFmt.ext signedExt signed
  rw [hx]
  simp only [Bool.false_eq_true, if_false, FloatFmt.isInf, f64_infMag, beq_iff_eq, FloatFmt.scaledMag_mag]

theorem not_nan_iff (x : Nat) : f64.isNaN x = false ↔ f64.mag x ≤ 9218868437227405312 := by
  rw [FloatFmt.isNaN, f64_infMag, decide_eq_false_iff_not, Nat.not_lt]

theorem f64_ext_cmp (a b : Nat) (ha : f64.isNaN a = false) (hb : f64.isNaN b = false) :
    Ext.cmp (f64.ext a) (f64.ext b) = icmp (f64Key a) (f64Key b) := by
  rw [f64_ext_def a ha, f64_ext_def b hb]
  exact signedExt_cmp (by decide) (fun x y hy => f64_scaledMag_mono x y (by omega)) f64_scaledMag_zero
    ((not_nan_iff a).mp ha) ((not_nan_iff b).mp hb)

theorem roundShift_nonneg (m : Nat) (sh : Int) (h : 0 ≤ sh) : roundShift m sh = m * 2 ^ sh.toNat := by
  unfold roundShift; rw [if_pos h]

theorem pow_split (a b c : Nat) (h : a + b = c) : 2 ^ a * 2 ^ b = 2 ^ c := by
  rw [← Nat.pow_add, h]

/-- exponent field and fraction of `k·P + M` when `M` carries the hidden bit: the carry lands in the exponent -/
theorem div_mod_hidden (P k M : Nat) (h1 : P ≤ M) (h2 : M < P + P) :
    (k * P + M) / P = k + 1 ∧ (k * P + M) % P = M - P := by
  have hP : 0 < P := by omega
  have hlt : M - P < P := by omega
  have e : k * P + M = P * (k + 1) + (M - P) := by
    rw [Nat.mul_succ, Nat.mul_comm P k, Nat.add_assoc, Nat.add_sub_cancel' h1]
  rw [e, Nat.mul_add_div hP, Nat.mul_add_mod, Nat.div_eq_of_lt hlt, Nat.mod_eq_of_lt hlt]
  exact ⟨rfl, rfl⟩

theorem shift_to_hidden (m L M : Nat) (hlo : 2 ^ L ≤ m) (hhi : m < 2 ^ (L + 1)) (hL : L ≤ M) :
    2 ^ M ≤ m * 2 ^ (M - L) ∧ m * 2 ^ (M - L) < 2 ^ M + 2 ^ M := by
  have hp := Nat.two_pow_pos (M - L)
  constructor
  · rw [← pow_split L (M - L) M (Nat.add_sub_cancel' hL)]; exact Nat.mul_le_mul_right _ hlo
  · rw [← Nat.two_mul, ← Nat.pow_succ', ← pow_split (L + 1) (M - L) (M + 1) (by omega)]
    exact Nat.mul_lt_mul_of_lt_of_le hhi (Nat.le_refl _) hp

theorem log2_mul_pow2 (m j : Nat) (hm : 0 < m) : (m * 2 ^ j).log2 = m.log2 + j := by
  have hlo : 2 ^ m.log2 ≤ m := Nat.log2_self_le (by omega)
  have hhi : m < 2 ^ (m.log2 + 1) := Nat.lt_log2_self
  have hpos : 0 < 2 ^ j := Nat.pow_pos (by omega)
  rw [Nat.log2_eq_iff (Nat.ne_of_gt (Nat.mul_pos hm hpos))]
  constructor
  · rw [← pow_split m.log2 j _ rfl]; exact Nat.mul_le_mul_right _ hlo
  · rw [← pow_split (m.log2 + 1) j (m.log2 + j + 1) (by omega)]
    exact Nat.mul_lt_mul_of_lt_of_le hhi (Nat.le_refl _) hpos

theorem roundShift_scale (m j a : Nat) : roundShift (m * 2 ^ j) ((a : Int) - (j : Int)) = m * 2 ^ a := by
  unfold roundShift
  by_cases h1 : 0 ≤ (a : Int) - (j : Int)
  · rw [if_pos h1, Nat.mul_assoc, pow_split j ((a : Int) - (j : Int)).toNat a (by omega)]
  · -- the shift only removes zeros that the scaling put there
    have hs : (-((a : Int) - (j : Int))).toNat + a = j := by omega
    have hs1 : 1 ≤ (-((a : Int) - (j : Int))).toNat := by omega
    rw [if_neg h1]
    generalize (-((a : Int) - (j : Int))).toNat = s' at *
    subst hs
    have hq : 0 < 2 ^ (s' - 1) := Nat.two_pow_pos _
    simp only [← pow_split a s' (s' + a) (Nat.add_comm a s'), ← Nat.mul_assoc, Nat.mul_div_cancel _ (Nat.two_pow_pos s'),
      Nat.mul_mod_left]
    rw [if_neg (by omega)]

namespace FloatFmt
variable (f : FloatFmt)

/-- With at most `mbits + 1` significant bits (trailing zeros `2^j` apart) nothing but zeros is shifted out: the
    rounded magnitude is the exponent field (the position of the leading bit, 0 below the normal range) and the
    significand shifted under it. `s` counts the exponent in units of the smallest subnormal. -/
theorem roundMag_formula (m j s : Nat) (hm : 0 < m) (hL : m.log2 ≤ f.mbits) :
    f.roundMag (m * 2 ^ j) ((s : Int) + 1 - (f.bias : Int) - (f.mbits : Int) - (j : Int)) =
      min ((if f.mbits ≤ m.log2 + s then m.log2 + s - f.mbits else 0) * 2 ^ f.mbits
            + m * 2 ^ (if f.mbits ≤ m.log2 + s then f.mbits - m.log2 else s)) f.infMag := by
  unfold roundMag
  rw [if_neg (Nat.ne_of_gt (Nat.mul_pos hm (Nat.two_pow_pos j))), log2_mul_pow2 m j hm]
  generalize m.log2 = L at *
  generalize f.bias = B
  generalize f.mbits = M at *
  dsimp only
  by_cases hn : M ≤ L + s
  · rw [if_pos hn, if_pos hn, Int.max_eq_left (by omega),
      show (s : Int) + 1 - B - M - j - (((L + j : Nat) : Int) + ((s : Int) + 1 - B - M - j) - M)
        = ((M - L : Nat) : Int) - j by omega,
      show ((L + j : Nat) : Int) + ((s : Int) + 1 - B - M - j) + B - 1 = ((L + s - M : Nat) : Int) by omega,
      roundShift_scale, Int.toNat_natCast]
  · rw [if_neg hn, if_neg hn, Int.max_eq_right (by omega),
      show (s : Int) + 1 - B - M - j - (1 - (B : Int) - M) = (s : Int) - j by omega,
      show 1 - (B : Int) + B - 1 = ((0 : Nat) : Int) by omega,
      roundShift_scale, Int.toNat_natCast]
/-- If no bit is lost (the significand has at most `mbits + 1` bits) and the exponent is in range, rounding is exact:
    the result is finite and decodes to `m · 2^s` (in units of the smallest subnormal). -/
theorem roundMag_exact (m j s : Nat) (hm : 0 < m) (hL : m.log2 ≤ f.mbits) (hs : m.log2 + s + 2 ≤ f.emax + f.mbits)
    (he : 0 < f.emax) (R : Nat)
    (hR : f.roundMag (m * 2 ^ j) ((s : Int) + 1 - (f.bias : Int) - (f.mbits : Int) - (j : Int)) = R) :
    R < f.infMag ∧ f.sig R * 2 ^ (max (f.expField R) 1 - 1) = m * 2 ^ s := by
  rw [roundMag_formula f m j s hm hL] at hR
  subst hR
  have hlo : 2 ^ m.log2 ≤ m := Nat.log2_self_le (Nat.ne_of_gt hm)
  have hhi : m < 2 ^ (m.log2 + 1) := Nat.lt_log2_self
  have hemax : f.emax < 2 ^ f.ebits := Nat.sub_lt (Nat.two_pow_pos _) Nat.one_pos
  unfold infMag sig expField frac
  generalize m.log2 = L at *
  generalize f.emax = X at *
  generalize f.mbits = M at *
  have hP := Nat.two_pow_pos M
  by_cases hn : M ≤ L + s
  · -- normal: the shifted significand carries the hidden bit
    obtain ⟨h1, h2⟩ := shift_to_hidden m L M hlo hhi hL
    obtain ⟨hd, hr⟩ := div_mod_hidden (2 ^ M) (L + s - M) _ h1 h2
    have hfin : (L + s - M) * 2 ^ M + m * 2 ^ (M - L) < X * 2 ^ M := by
      have := Nat.mul_le_mul_right (2 ^ M) (show L + s - M + 2 ≤ X by omega)
      rw [Nat.add_mul, Nat.two_mul] at this
      exact Nat.lt_of_lt_of_le (Nat.add_lt_add_left h2 _) this
    rw [if_pos hn, if_pos hn, Nat.min_eq_left (Nat.le_of_lt hfin), hd, hr,
      Nat.mod_eq_of_lt (show L + s - M + 1 < 2 ^ f.ebits by omega), if_neg (Nat.succ_ne_zero _),
      Nat.add_sub_cancel' h1, Nat.max_eq_left (Nat.succ_pos _), Nat.succ_sub_one, Nat.mul_assoc,
      pow_split (M - L) (L + s - M) s (by omega)]
    exact ⟨hfin, rfl⟩
  · -- subnormal: the value itself is the fraction
    have hlt : m * 2 ^ s < 2 ^ M := by
      have h1 : m * 2 ^ s < 2 ^ (L + 1) * 2 ^ s := Nat.mul_lt_mul_of_lt_of_le hhi (Nat.le_refl _) (Nat.two_pow_pos s)
      rw [pow_split (L + 1) s (L + 1 + s) rfl] at h1
      exact Nat.lt_of_lt_of_le h1 (Nat.pow_le_pow_right (by omega) (by omega))
    have hfin : m * 2 ^ s < X * 2 ^ M := Nat.lt_of_lt_of_le hlt (Nat.le_mul_of_pos_left _ he)
    rw [if_neg hn, if_neg hn, Nat.zero_mul, Nat.zero_add, Nat.min_eq_left (Nat.le_of_lt hfin), Nat.div_eq_of_lt hlt,
      Nat.zero_mod, if_pos rfl, Nat.mod_eq_of_lt hlt]
    exact ⟨hfin, Nat.mul_one _⟩
end FloatFmt

/-- The instance for binary64, exponent in units of 2^-1074; 2097 = `emax + mbits − 2` = 2047 + 52 − 2 keeps the
    exponent field below the all-ones field of the infinities. -/
theorem f64_roundMag_exact (m j s : Nat) (hm : 0 < m) (hL : m.log2 ≤ 52) (hs : m.log2 + s ≤ 2097) :
    f64.roundMag (m * 2 ^ j) ((s : Int) - 1074 - (j : Int)) < 9218868437227405312 ∧
      f64.scaledMag (f64.roundMag (m * 2 ^ j) ((s : Int) - 1074 - (j : Int))) = m * 2 ^ s := by
  have h := f64.roundMag_exact m j s hm hL (by rw [show f64.emax = 2047 by decide]; exact Nat.add_le_add_right hs 2)
    (by decide) _ rfl
  rw [show (s : Int) + 1 - (f64.bias : Int) - (f64.mbits : Int) = (s : Int) - 1074 by
    rw [f64_bias]; show (s : Int) + 1 - 1023 - 52 = _; omega, f64_infMag] at h
  rw [FloatFmt.scaledMag, f64_scaleOff]
  exact h

theorem unitScale_split (a b : Nat) (h : a + b = 1074) : unitScale = 2 ^ a * 2 ^ b := by
  unfold unitScale; exact (pow_split a b 1074 h).symm

theorem two_pow_mul_unitScale (a c : Nat) (h : a + 1074 = c) : 2 ^ a * unitScale = 2 ^ c := by
  rw [← h, Nat.pow_add]; rfl

theorem f64_mag_add_sign (R : Nat) (hR : R < 9223372036854775808) :
    f64.mag (9223372036854775808 + R) = R ∧ f64.isNeg (9223372036854775808 + R) = true ∧
    f64.mag R = R ∧ f64.isNeg R = false := by
  simp only [FloatFmt.mag, FloatFmt.isNeg, f64_signBit, beq_iff_eq, beq_eq_false_iff_ne]
  omega

theorem f64_ext_sign_add (n : Prop) [Decidable n] (R : Nat) (hR : R < 9223372036854775808) :
    f64.ext ((if n then f64.signBit else 0) + R) =
      if 9218868437227405312 < R then .nan
      else if R = 9218868437227405312 then (if n then .negInf else .posInf)
      else .fin (if n then -(f64.scaledMag R : Int) else (f64.scaledMag R : Int)) := by
  obtain ⟨m1, n1, m2, n2⟩ := f64_mag_add_sign R hR
  rw [FloatFmt.ext, FloatFmt.isNaN, FloatFmt.isInf, f64_infMag, ← FloatFmt.scaledMag_mag, f64_signBit]
  by_cases h : n
  · simp only [if_pos h, m1, n1, gt_iff_lt, decide_eq_true_eq, beq_iff_eq, if_true]
  · simp only [if_neg h, Nat.zero_add, m2, n2, gt_iff_lt, decide_eq_true_eq, beq_iff_eq, Bool.false_eq_true, if_false]

theorem f64_ext_intToFloat (i : Int) (S j : Nat) (hS : 0 < S) (hL : S.log2 ≤ 52) (hj : S.log2 + j ≤ 1023)
    (h : i.natAbs = S * 2 ^ j) :
    f64.ext (intToFloat f64 i) = .fin (i * (unitScale : Int)) := by
  obtain ⟨hfin, hval⟩ := f64_roundMag_exact S j (j + 1074) hS hL (by omega)
  rw [show ((j + 1074 : Nat) : Int) - 1074 - (j : Int) = 0 by omega, ← h] at hfin hval
  rw [intToFloat, f64_ext_sign_add _ _ (by omega), if_neg (by omega), if_neg (by omega), hval,
    ← two_pow_mul_unitScale j (j + 1074) rfl, ← Nat.mul_assoc, ← h, Int.natCast_mul]
  split
  · rw [show (i.natAbs : Int) = -i by omega, Int.neg_mul, Int.neg_neg]
  · rw [show (i.natAbs : Int) = i by omega]

theorem intToFloat_zero : intToFloat f64 0 = 0 := by decide

theorem f64_ext_intToFloat_small (i : Int) (h : i.natAbs ≤ 9007199254740992) :
    f64.ext (intToFloat f64 i) = .fin (i * (unitScale : Int)) := by
  by_cases h0 : i = 0
  · subst h0
    rw [intToFloat_zero, Int.zero_mul]
    decide
  · by_cases h53 : i.natAbs = 9007199254740992
    · -- 2^53 = 2^52 · 2
      exact f64_ext_intToFloat i 4503599627370496 1 (by decide) (by decide) (by decide) h53
    · have : i.natAbs.log2 < 53 := (Nat.log2_lt (by omega)).mpr (by omega)
      exact f64_ext_intToFloat i i.natAbs 0 (by omega) (by omega) (by omega) (Nat.mul_one _).symm

namespace FloatFmt
theorem ext_nan_iff (f : FloatFmt) (p : Nat) : f.ext p = .nan ↔ f.isNaN p = true := by
  unfold ext
  cases f.isNaN p
  · simp only [Bool.false_eq_true, if_false, iff_false]
    split
    · split <;> exact Ext.noConfusion
    · exact Ext.noConfusion
  · simp only [if_true]
end FloatFmt

theorem f64_not_nan_of_ext {p : Nat} {x : Ext} (h : f64.ext p = x) (hx : x ≠ .nan) : f64.isNaN p = false := by
  cases hn : f64.isNaN p
  · rfl
  · exact absurd (h ▸ (f64.ext_nan_iff p).mpr hn) hx

theorem f64_bits_split (p : Nat) (hp : p < 18446744073709551616) :
    p = (if f64.isNeg p then 9223372036854775808 else 0) + f64.mag p := by
  simp only [FloatFmt.mag, FloatFmt.isNeg, f64_signBit, beq_iff_eq]
  split <;> omega

theorem f64Key_inj (p q : Nat) (hp : p < 18446744073709551616) (hq : q < 18446744073709551616)
    (h : f64Key p = f64Key q) : f64.mag p = f64.mag q ∧ (f64.mag p ≠ 0 → p = q) := by
  have sp := f64_bits_split p hp
  have sq := f64_bits_split q hq
  unfold f64Key at h
  generalize f64.mag p = mp at *
  generalize f64.mag q = mq at *
  generalize f64.isNeg p = np at *
  generalize f64.isNeg q = nq at *
  cases np <;> cases nq <;> simp only [Bool.false_eq_true, if_false, if_true] at h sp sq <;> omega

/-- two `f64` bit patterns with the same exact value hash alike (they are the same pattern, or the two zeros, or NaNs) -/
theorem f64_ext_inj (p q : Nat) (hp : p < 18446744073709551616) (hq : q < 18446744073709551616)
    (h : f64.ext p = f64.ext q) : canonF64 p = canonF64 q := by
  cases hnp : f64.isNaN p
  · have hnq : f64.isNaN q = false := f64_not_nan_of_ext h.symm (fun e => by rw [(f64.ext_nan_iff p).mp e] at hnp; cases hnp)
    have hk := (icmp_eq_iff _ _).mp ((f64_ext_cmp p q hnp hnq).symm.trans ((Ext.cmp_eq_iff _ _).mpr h))
    obtain ⟨hm, hpq⟩ := f64Key_inj p q hp hq hk
    simp only [canonF64, hnp, hnq, Bool.false_eq_true, if_false, ← hm]
    split
    · rfl
    · rename_i h0; exact hpq h0
  · have hnq : f64.isNaN q = true := (f64.ext_nan_iff q).mp (h ▸ (f64.ext_nan_iff p).mpr hnp)
    simp only [canonF64, hnp, hnq, if_true]

theorem f32_isNeg_eq (b : Nat) (hb : b < 4294967296) : f32.isNeg b = decide (2147483648 ≤ b) := by
  simp only [FloatFmt.isNeg, FloatFmt.signBit, f32, Nat.reduceAdd, Nat.reducePow]
  by_cases h : 2147483648 ≤ b
  · have : b / 2147483648 % 2 = 1 := by omega
    simp [this, h]
  · have : b / 2147483648 % 2 = 0 := by omega
    simp [this, h]
theorem f32_mag_eq (b : Nat) : f32.mag b = b % 2147483648 := by
  simp only [FloatFmt.mag, FloatFmt.signBit, f32, Nat.reduceAdd, Nat.reducePow]
theorem f32_expField_eq (b : Nat) : f32.expField b = b / 8388608 % 256 := by
  simp only [FloatFmt.expField, f32, Nat.reducePow]
theorem f32_frac_eq (b : Nat) : f32.frac b = b % 8388608 := by
  simp only [FloatFmt.frac, f32, Nat.reducePow]
theorem f32_infMag : f32.infMag = 2139095040 := by decide

theorem f32_scaleOff : f32.scaleOff = 925 := by decide
theorem f32_quietBit : f32.quietBit = 4194304 := by decide

theorem f32_sig_lt (b : Nat) : f32.sig b < 16777216 := by
  have hp : 2 ^ f32.mbits = 8388608 := by decide
  simp only [FloatFmt.sig, f32_frac_eq, hp]
  split <;> omega

theorem f32_qexp_eq (b : Nat) : f32.qexp b = ((max (f32.expField b) 1 + 924 : Nat) : Int) - 1074 := by
  have hb : f32.bias = 127 := by decide
  have hm : f32.mbits = 23 := rfl
  simp only [FloatFmt.qexp, hb, hm]
  omega

/-- every finite `f32` fits `f64` without rounding -/
theorem widen_round (b : Nat) :
    f64.roundMag (f32.sig b) (f32.qexp b) < 9218868437227405312 ∧
      f64.scaledMag (f64.roundMag (f32.sig b) (f32.qexp b)) = f32.scaledMag b := by
  have hexp : f32.expField b ≤ 255 := by rw [f32_expField_eq]; omega
  by_cases h0 : f32.sig b = 0
  · have : f64.roundMag 0 (f32.qexp b) = 0 := if_pos rfl
    rw [h0, this]
    exact ⟨by decide, by rw [f64_scaledMag_zero, FloatFmt.scaledMag, h0, Nat.zero_mul]⟩
  · have hlt := f32_sig_lt b
    have hlog : (f32.sig b).log2 < 24 := (Nat.log2_lt h0).mpr (by omega)
    rw [f32_qexp_eq]
    obtain ⟨e1, e2⟩ := f64_roundMag_exact (f32.sig b) 0 (max (f32.expField b) 1 + 924) (by omega) (by omega) (by omega)
    rw [Nat.pow_zero, Nat.mul_one, Int.natCast_zero, Int.sub_zero] at e1 e2
    refine ⟨e1, ?_⟩
    rw [e2, FloatFmt.scaledMag, f32_scaleOff]
    congr 2
    omega

theorem widen_exact (b : Nat) : f64.ext (widen b) = f32.ext b := by
  rw [widen]
  conv => rhs; rw [FloatFmt.ext]
  cases f32.isNaN b
  · cases f32.isInf b
    · obtain ⟨hfin, hval⟩ := widen_round b
      simp only [Bool.false_eq_true, if_false]
      rw [f64_ext_sign_add _ _ (by omega), if_neg (by omega), if_neg (by omega), hval]
    · simp only [Bool.false_eq_true, if_false, if_true]
      rw [f64_infMag, f64_ext_sign_add _ _ (by decide), if_neg (by decide), if_pos rfl]
  · have hy : f32.frac b % f32.quietBit < 4194304 := f32_quietBit ▸ Nat.mod_lt _ (by decide)
    simp only [if_true]
    rw [Nat.add_assoc, Nat.add_assoc, f64_infMag, f64_quietBit,
      f64_ext_sign_add _ _ (by omega), if_pos (by omega)]

theorem roundMag_le (f : FloatFmt) (m : Nat) (e : Int) : f.roundMag m e ≤ f.infMag := by
  unfold FloatFmt.roundMag
  split
  · exact Nat.zero_le _
  · exact Nat.min_le_right _ _

theorem intToFloat_lt (i : Int) : intToFloat f64 i < 18446744073709551616 := by
  have := roundMag_le f64 i.natAbs 0
  rw [f64_infMag] at this
  unfold intToFloat
  rw [f64_signBit]
  split <;> omega

theorem widen_lt (b : Nat) : widen b < 18446744073709551616 := by
  have h1 := roundMag_le f64 (f32.sig b) (f32.qexp b)
  rw [f64_infMag] at h1
  unfold widen
  simp only [f64_signBit, f64_infMag, f64_quietBit, f32_quietBit]
  have : f32.frac b % 4194304 < 4194304 := Nat.mod_lt _ (by omega)
  generalize f32.frac b % 4194304 = y at *
  split <;> split <;> (try split) <;> omega

theorem toF64_some (v : Value) (hw : v.Wf) (hc : v.cls = 2) : ∃ t, v.toF64 = some t ∧ t < 18446744073709551616 := by
  cases v with
  | int i | bigint i => exact ⟨_, rfl, intToFloat_lt i⟩
  | uint n | biguint n => exact ⟨_, rfl, intToFloat_lt n⟩
  | float b => exact ⟨_, rfl, widen_lt b⟩
  | double b => exact ⟨b, rfl, hw⟩
  | null | bool _ | blob _ => exact absurd hc (Nat.ne_of_beq_eq_false rfl)

theorem ext_int (v : Value) (i : Int) (h : v.intVal = some i) : v.ext = some (.fin (i * (unitScale : Int))) := by
  cases v <;> simp only [Value.intVal, Option.some.injEq, reduceCtorEq] at h <;> subst h <;> rfl

theorem int_or_repr (v : Value) (hw : v.Wf) (x : Ext) (hx : v.ext = some x) (t : Nat) (ht : v.toF64 = some t) :
    (∃ i : Int, x = .fin (i * (unitScale : Int)) ∧ t = intToFloat f64 i) ∨
      (t < 18446744073709551616 ∧ f64.ext t = x) := by
  cases v with
  | int i | bigint i => cases hx; cases ht; exact Or.inl ⟨i, rfl, rfl⟩
  | uint n | biguint n => cases hx; cases ht; exact Or.inl ⟨n, rfl, rfl⟩
  | float b => cases hx; cases ht; exact Or.inr ⟨widen_lt b, widen_exact b⟩
  | double b => cases hx; cases ht; exact Or.inr ⟨hw, rfl⟩
  | null | bool _ | blob _ => exact nomatch hx

theorem natAbs_signed (n : Bool) (m : Nat) : (signed n m).natAbs = m := by
  cases n
  · exact Int.natAbs_natCast m
  · exact (Int.natAbs_neg _).trans (Int.natAbs_natCast m)

theorem int_repr_exact (i : Int) (d : Nat) (h : f64.ext d = .fin (i * (unitScale : Int))) :
    f64.ext (intToFloat f64 i) = .fin (i * (unitScale : Int)) := by
  have hnan : f64.isNaN d = false := f64_not_nan_of_ext h Ext.noConfusion
  have hm := f64_mag_lt d
  have hnan' := (not_nan_iff d).mp hnan
  rw [f64_ext_def d hnan, signedExt] at h
  split at h
  · split at h <;> exact Ext.noConfusion h
  · rename_i hfin
    have habs : i.natAbs * unitScale = f64.scaledMag (f64.mag d) := by
      have := congrArg Int.natAbs (Ext.fin.inj h)
      rw [natAbs_signed, Int.natAbs_mul, Int.natAbs_natCast] at this
      exact this.symm
    rw [f64_scaledMag_def _ hm] at habs
    generalize hsig : (if f64.mag d / 4503599627370496 = 0 then f64.mag d % 4503599627370496
      else 4503599627370496 + f64.mag d % 4503599627370496) = sig at habs
    have hsig_lt : sig < 9007199254740992 := by rw [← hsig]; split <;> omega
    generalize hx : max (f64.mag d / 4503599627370496) 1 - 1 = x at habs
    have hx' : x ≤ 2045 := by omega
    by_cases h0 : sig = 0
    · rw [h0, Nat.zero_mul] at habs
      have : i = 0 := Int.natAbs_eq_zero.mp ((Nat.mul_eq_zero.mp habs).resolve_right (Nat.ne_of_gt unitScale_pos))
      subst this
      exact f64_ext_intToFloat_small 0 (by decide)
    · have hlog : sig.log2 < 53 := (Nat.log2_lt h0).mpr hsig_lt
      by_cases h1 : 1074 ≤ x
      · -- |i| = sig · 2^(x − 1074)
        rw [← two_pow_mul_unitScale (x - 1074) x (Nat.sub_add_cancel h1), ← Nat.mul_assoc] at habs
        exact f64_ext_intToFloat i sig (x - 1074) (Nat.pos_of_ne_zero h0) (by omega) (by omega)
          (Nat.eq_of_mul_eq_mul_right unitScale_pos habs)
      · -- |i| · 2^(1074 − x) = sig: the integer itself has at most 53 bits
        rw [unitScale_split (1074 - x) x (by omega), ← Nat.mul_assoc] at habs
        have hs := Nat.eq_of_mul_eq_mul_right (Nat.two_pow_pos x) habs
        have hi : i.natAbs ≠ 0 := fun h => h0 (by rw [← hs, h, Nat.zero_mul])
        have hle : i.natAbs ≤ sig := hs ▸ Nat.le_mul_of_pos_right _ (Nat.two_pow_pos _)
        have : i.natAbs.log2 < 53 := (Nat.log2_lt hi).mpr (by omega)
        exact f64_ext_intToFloat i i.natAbs 0 (by omega) (by omega) (by omega) (Nat.mul_one _).symm

theorem hashKey_num (D : Defects) (v : Value) (t : Nat) (hc : v.cls = 2) (ht : v.toF64 = some t) :
    hashKey D v = 2 :: le64 (if D.hashRawBits then t else canonF64 t) := by
  cases v <;> first | exact absurd hc (Nat.ne_of_beq_eq_false rfl) | simp only [hashKey, ht]

theorem canon_of_ext_eq (a b : Value) (ha : a.Wf) (hb : b.Wf) (x : Ext) (hxa : a.ext = some x) (hxb : b.ext = some x)
    (ta tb : Nat) (hta : a.toF64 = some ta) (htb : b.toF64 = some tb) : canonF64 ta = canonF64 tb := by
  rcases int_or_repr a ha x hxa ta hta with ⟨i, rfl, rfl⟩ | ⟨la, ea⟩
  · rcases int_or_repr b hb _ hxb tb htb with ⟨j, hj, rfl⟩ | ⟨lb, eb⟩
    · rw [(scale_inj i j).mp (Ext.fin.inj hj)]
    · exact f64_ext_inj _ _ (intToFloat_lt i) lb ((int_repr_exact i tb eb).trans eb.symm)
  · rcases int_or_repr b hb x hxb tb htb with ⟨j, rfl, rfl⟩ | ⟨lb, eb⟩
    · exact f64_ext_inj _ _ la (intToFloat_lt j) (ea.trans (int_repr_exact j ta ea).symm)
    · exact f64_ext_inj ta tb la lb (ea.trans eb.symm)

theorem div_mul_bounds (m d c : Nat) (hd : 0 < d) (hc : 0 < c) :
    m / d * (d * c) ≤ m * c ∧ m * c < (m / d + 1) * (d * c) := by
  rw [← Nat.mul_assoc, ← Nat.mul_assoc]
  exact ⟨Nat.mul_le_mul_right c (Nat.div_mul_le_self m d),
    Nat.mul_lt_mul_of_lt_of_le (Nat.mul_comm d _ ▸ Nat.lt_mul_div_succ m hd) (Nat.le_refl c) hc⟩

theorem truncF64_eq_signed (b : Nat) :
    ∃ T : Nat, truncF64 b = signed (f64.isNeg b) T ∧
      T * unitScale ≤ f64.scaledMag b ∧ f64.scaledMag b < (T + 1) * unitScale := by
  have hq : f64.qexp b = ((max (f64.expField b) 1 : Nat) : Int) - 1075 := by
    rw [FloatFmt.qexp, f64_bias]; rfl
  have hg : 1 ≤ max (f64.expField b) 1 := Nat.le_max_right _ _
  refine ⟨if 0 ≤ f64.qexp b then f64.sig b * 2 ^ (f64.qexp b).toNat else f64.sig b / 2 ^ (-(f64.qexp b)).toNat, rfl, ?_⟩
  rw [FloatFmt.scaledMag, f64_scaleOff, Nat.add_zero, hq]
  generalize max (f64.expField b) 1 = g at hg
  generalize f64.sig b = m
  by_cases h : 1075 ≤ g
  · have e : m * 2 ^ (g - 1075) * unitScale = m * 2 ^ (g - 1) := by
      rw [Nat.mul_assoc, two_pow_mul_unitScale (g - 1075) (g - 1) (by omega)]
    rw [if_pos (by omega), show ((g : Int) - 1075).toNat = g - 1075 by omega, Nat.add_mul, Nat.one_mul, e]
    exact ⟨Nat.le_refl _, Nat.lt_add_of_pos_right unitScale_pos⟩
  · rw [if_neg (by omega), show (-((g : Int) - 1075)).toNat = 1075 - g by omega,
      unitScale_split (1075 - g) (g - 1) (by omega)]
    exact div_mul_bounds m _ _ (Nat.two_pow_pos _) (Nat.two_pow_pos _)

/-- Values on which comparing through `f64` is harmless: integers of magnitude ≤ 2^53, no NaN. -/
def Value.Safe : Value → Prop
  | .bigint i => i.natAbs ≤ 9007199254740992
  | .biguint n => n ≤ 9007199254740992
  | .float b => f32.isNaN b = false
  | .double b => f64.isNaN b = false
  | _ => True

instance (v : Value) : Decidable v.Safe := by
  cases v <;> unfold Value.Safe <;> infer_instance

theorem safe_image (v : Value) (hw : v.Wf) (hs : v.Safe) (x : Ext) (hx : v.ext = some x) :
    v.toF64.map f64.ext = some x ∧ x ≠ .nan := by
  -- integers are below 2^53 in magnitude by `Wf` (32-bit kinds) or by `Safe`; floats are not NaN by `Safe`
  cases v with
  | int i =>
    cases hx
    exact ⟨congrArg some (f64_ext_intToFloat_small i (by have := hw.1; have := hw.2; omega)), Ext.noConfusion⟩
  | bigint i =>
    cases hx
    exact ⟨congrArg some (f64_ext_intToFloat_small i hs), Ext.noConfusion⟩
  | uint n =>
    cases hx
    exact ⟨congrArg some (f64_ext_intToFloat_small n (by have : n < 4294967296 := hw; omega)), Ext.noConfusion⟩
  | biguint n =>
    cases hx
    exact ⟨congrArg some (f64_ext_intToFloat_small n (by have : n ≤ 9007199254740992 := hs; omega)), Ext.noConfusion⟩
  | float b =>
    cases hx
    exact ⟨congrArg some (widen_exact b), fun h => Bool.noConfusion (((f32.ext_nan_iff b).mp h).symm.trans hs)⟩
  | double b =>
    cases hx
    exact ⟨rfl, fun h => Bool.noConfusion (((f64.ext_nan_iff b).mp h).symm.trans hs)⟩
  | null | bool _ | blob _ => exact nomatch hx

theorem canon_id (t : Nat) (ht : t < 18446744073709551616) (hn : f64.isNaN t = false) (hz : t ≠ 9223372036854775808) :
    canonF64 t = t := by
  simp only [canonF64, hn, Bool.false_eq_true, if_false]
  split
  · rename_i h
    simp only [FloatFmt.mag, FloatFmt.signBit, f64, Nat.reduceAdd, Nat.reducePow] at h
    omega
  · rfl

end AxVerif.Value
