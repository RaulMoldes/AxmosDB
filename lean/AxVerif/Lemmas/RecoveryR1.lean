/- Lemmas about protocol rule R1 (acknowledge only after a covering force). -/
import AxVerif.Lemmas.Recovery
namespace AxVerif.Recovery
open AxVerif AxVerif.Durable

theorem durable_eq (es : List Ev) : durable es = (appended es).take (counts es).1 := by
  simp [durable, durableCount_eq]

theorem durable_snoc_append (es : List Ev) (r : Rec) : durable (es ++ [Ev.append r]) = durable es := by
  rw [durable_eq, durable_eq, counts_snoc, appended_snoc]
  simp only [countStep, evRecs]
  have := (counts_props es)
  rw [List.take_append_of_le_length (by omega)]

theorem durable_snoc_ack (es : List Ev) (t : Nat) : durable (es ++ [Ev.ack t]) = durable es := by
  rw [durable_eq, durable_eq, counts_snoc, appended_snoc]
  simp [countStep, evRecs]

/-- a force and a checkpoint do the same to the history: no record, everything appended so far covered -/
theorem durable_snoc_sync (es : List Ev) (e : Ev) (h1 : evRecs e = [])
    (h2 : countStep (counts es) e = ((counts es).2, (counts es).2)) : durable (es ++ [e]) = appended es := by
  rw [durable_eq, counts_snoc, appended_snoc, h1, h2, List.append_nil, (counts_props es).2, List.take_length]

theorem durable_snoc_force (es : List Ev) : durable (es ++ [Ev.force]) = appended es :=
  durable_snoc_sync es .force rfl rfl

theorem durable_snoc_checkpoint (es : List Ev) : durable (es ++ [Ev.checkpoint]) = appended es :=
  durable_snoc_sync es .checkpoint rfl rfl

theorem durable_subset_appended (es : List Ev) : ∀ r ∈ durable es, r ∈ appended es := by
  intro r hr
  rw [durable_eq] at hr
  exact List.mem_of_mem_take hr

def r1Fold (es : List Ev) : R1State × Bool := es.foldl r1Step ({ pending := [], safe := [] }, true)

theorem checkR1_eq (es : List Ev) : checkR1 es = (r1Fold es).2 := rfl

theorem r1Fold_snoc (es : List Ev) (e : Ev) : r1Fold (es ++ [e]) = r1Step (r1Fold es) e := by
  simp [r1Fold, List.foldl_append]

theorem r1_false_stays (es : List Ev) (st : R1State) : (es.foldl r1Step (st, false)).2 = false := by
  induction es generalizing st with
  | nil => rfl
  | cons e es ih =>
    simp only [List.foldl_cons]
    cases e with
    | append r => cases r <;> simp only [r1Step] <;> exact ih _
    | force => simp only [r1Step]; exact ih _
    | checkpoint => simp only [r1Step]; exact ih _
    | ack t => simp only [r1Step, Bool.false_and]; exact ih _

theorem checkR1_prefix (a b : List Ev) (h : checkR1 (a ++ b) = true) : checkR1 a = true := by
  rw [checkR1_eq] at *
  simp only [r1Fold, List.foldl_append] at h
  cases hfa : a.foldl r1Step ({ pending := [], safe := [] }, true) with
  | mk st ok =>
    rw [hfa] at h
    cases ok with
    | true => simp [r1Fold, hfa]
    | false => rw [r1_false_stays] at h; cases h

theorem durable_mono (es : List Ev) (e : Ev) : ∀ r ∈ durable es, r ∈ durable (es ++ [e]) := by
  intro r hr
  cases e with
  | append r' => rwa [durable_snoc_append]
  | ack t => rwa [durable_snoc_ack]
  | force => rw [durable_snoc_force]; exact durable_subset_appended es r hr
  | checkpoint => rw [durable_snoc_checkpoint]; exact durable_subset_appended es r hr

structure R1Inv (p : R1State × Bool) (es : List Ev) : Prop where
  safe : ∀ t ∈ p.1.safe, Rec.commit t ∈ durable es
  pend : ∀ t ∈ p.1.pending, Rec.commit t ∈ appended es
  acks : p.2 = true → ∀ t, Ev.ack t ∈ es → Rec.commit t ∈ durable es

theorem r1Inv (es : List Ev) : R1Inv (r1Fold es) es := by
  refine snoc_induction (P := fun es => R1Inv (r1Fold es) es) ⟨nofun, nofun, nofun⟩ ?_ es
  intro es e ⟨hs, hp, ha⟩
  have hmono := durable_mono es e
  have hpend : ∀ t ∈ (r1Fold es).1.pending, Rec.commit t ∈ appended (es ++ [e]) := fun t ht => by
    rw [appended_snoc]; exact List.mem_append_left _ (hp t ht)
  -- an acknowledgement seen earlier is covered by what was durable then; only `ack` itself adds one
  have hacks : (∀ t, e ≠ Ev.ack t) → (r1Fold es).2 = true → ∀ t, Ev.ack t ∈ es ++ [e] →
      Rec.commit t ∈ durable (es ++ [e]) := by
    intro hne h t ht
    rcases List.mem_append.mp ht with ht | ht
    · exact hmono _ (ha h t ht)
    · exact absurd (List.mem_singleton.mp ht).symm (hne t)
  -- force and checkpoint: what was pending becomes safe, and the whole history durable
  have hsync : durable (es ++ [e]) = appended es →
      ∀ t ∈ (r1Fold es).1.pending ++ (r1Fold es).1.safe, Rec.commit t ∈ durable (es ++ [e]) := fun hd t h =>
    hd ▸ (List.mem_append.mp h).elim (hp t) (fun h => durable_subset_appended es _ (hs t h))
  rw [r1Fold_snoc]
  cases e with
  | append r =>
    cases r with
    | commit t =>
      refine ⟨fun t' h => hmono _ (hs t' h), fun t' h => ?_, hacks nofun⟩
      rcases List.mem_cons.mp h with rfl | h
      · rw [appended_snoc]; exact List.mem_append_right _ (List.mem_singleton_self _)
      · exact hpend t' h
    | op t d => exact ⟨fun t' h => hmono _ (hs t' h), hpend, hacks nofun⟩
    | abort t => exact ⟨fun t' h => hmono _ (hs t' h), hpend, hacks nofun⟩
  | force => exact ⟨hsync (durable_snoc_force es), fun _ h => absurd h List.not_mem_nil, hacks nofun⟩
  | checkpoint => exact ⟨hsync (durable_snoc_checkpoint es), fun _ h => absurd h List.not_mem_nil, hacks nofun⟩
  | ack t =>
    refine ⟨fun t' h => hmono _ (hs t' h), hpend, fun hok t' ht' => ?_⟩
    obtain ⟨hok1, hok2⟩ := Bool.and_eq_true_iff.mp hok
    rcases List.mem_append.mp ht' with h | h
    · exact hmono _ (ha hok1 t' h)
    · cases List.mem_singleton.mp h
      exact hmono _ (hs t (List.contains_iff_mem.mp hok2))

theorem isWinner_of_commit_mem {rs : List Rec} {t : Nat} (hw : WfRecs rs) (h : Rec.commit t ∈ rs) :
    isWinner rs t = true := by
  obtain ⟨a, b, rfl⟩ := List.append_of_mem h
  have hb : ∀ r ∈ b, r.tid ≠ t := by
    intro r hr e
    have hcons := (List.pairwise_append.mp hw).2.1
    have := (List.pairwise_cons.mp hcons).1 r hr
    exact this ⟨rfl, by rw [e]; rfl⟩
  have : a ++ Rec.commit t :: b = (a ++ [Rec.commit t]) ++ b := by simp
  rw [this, isWinner_append_right hb]
  simp [isWinner, List.foldl_append, winnerStep]

theorem wf_take {rs : List Rec} (n : Nat) (h : WfRecs rs) : WfRecs (rs.take n) :=
  List.Pairwise.sublist (List.take_sublist n rs) h

theorem wf_appended_take {es : List Ev} (hw : WfRecs (appended es)) (k : Nat) : WfRecs (appended (es.take k)) := by
  rw [← List.take_append_drop k es, appended_append] at hw
  exact hw.left

theorem durable_commit_closed (es : List Ev) (hw : WfRecs (appended es)) (k t : Nat)
    (hc : Rec.commit t ∈ durable (es.take k)) :
    ∃ rest, appended es = durable (es.take k) ++ rest ∧ ∀ r ∈ rest, r.tid ≠ t := by
  have happ : appended es = durable (es.take k) ++
      ((appended (es.take k)).drop (counts (es.take k)).1 ++ appended (es.drop k)) := by
    rw [durable_eq, ← List.append_assoc, List.take_append_drop, ← appended_append, List.take_append_drop]
  refine ⟨_, happ, fun r hr e => ?_⟩
  rw [happ] at hw
  exact (List.pairwise_append.mp hw).2.2 _ hc r hr ⟨rfl, e.symm⟩

end AxVerif.Recovery
