/-
  Invariant of the pre-image journal (Model/Journal.lean) and its consequence: restoring any reachable state gives the
  last checkpoint.
-/
import AxVerif.Model.Journal
namespace AxVerif.Journal

def EntryOk (base : Nat) (ckpt : File) (e : Nat × Nat) : Prop := e.1 < base ∧ ckpt[e.1]? = some e.2

structure ActiveInv (s : St) : Prop where
  len : s.ckpt.length = s.base
  le : s.base ≤ s.file.length
  entries : ∀ e ∈ s.saved ++ s.pending, EntryOk s.base s.ckpt e
  untouched : ∀ p, p < s.base → durablySaved s p = false → s.file[p]? = s.ckpt[p]?
  leS : s.base ≤ s.synced.length
  untouchedS : ∀ p, p < s.base → durablySaved s p = false → s.synced[p]? = s.ckpt[p]?

/-- modes in which the journal says "the file is a checkpoint" -/
def settled (m : Mode) : Prop := m = .done ∨ m = .dropped ∨ m = .emptied

/-- Invariant of the journal protocol. `synced` and the `…S` fields of `ActiveInv` are about the file as of its last
    fsync, which is what a crash may fall back to. -/
structure Inv (s : St) : Prop where
  active : s.mode = .active → ActiveInv s
  idle : s.mode ≠ .active → s.file = s.ckpt
  synced : s.dirty = false → s.synced = s.file
  settled : settled s.mode → s.dirty = false

theorem inv_init : Inv init :=
  ⟨fun h => (by cases h), fun _ => rfl, fun _ => rfl, fun h => by rcases h with h | h | h <;> cases h⟩

theorem writePage_length_ge (f : File) (p v : Nat) : f.length ≤ (writePage f p v).length := by
  unfold writePage; split
  · simp
  · simp

theorem writePage_getElem?_ne (f : File) (p v q : Nat) (hq : q < f.length) (hne : q ≠ p) :
    (writePage f p v)[q]? = f[q]? := by
  unfold writePage; split
  · rw [List.getElem?_set]; simp [Ne.symm hne]
  · rw [List.append_assoc, List.getElem?_append_left hq]

theorem writePage_getElem?_eq (f : File) (p v : Nat) (hp : p < f.length) :
    (writePage f p v)[p]? = some v := by
  unfold writePage; simp [hp]

theorem ActiveInv.transfer {s s' : St} (A : ActiveInv s) (hb : s'.base = s.base) (hc : s'.ckpt = s.ckpt)
    (hent : ∀ e ∈ s'.saved ++ s'.pending, e ∈ s.saved ++ s.pending ∨ EntryOk s.base s.ckpt e)
    (hds : ∀ p, durablySaved s' p = false → durablySaved s p = false)
    (hlen : s.file.length ≤ s'.file.length)
    (hfile : ∀ p, p < s.base → durablySaved s' p = false → s'.file[p]? = s.file[p]?)
    (hsync : s'.synced = s.synced ∨ s'.synced = s.file) : ActiveInv s' where
  len := by rw [hb, hc]; exact A.len
  le := hb ▸ Nat.le_trans A.le hlen
  entries := fun e he => by rw [hb, hc]; exact (hent e he).elim (A.entries e) id
  untouched := fun p hp hd => by
    rw [hb] at hp
    rw [hc, hfile p hp hd]
    exact A.untouched p hp (hds p hd)
  leS := by
    rw [hb]
    rcases hsync with h | h <;> rw [h]
    · exact A.leS
    · exact A.le
  untouchedS := fun p hp hd => by
    rw [hb] at hp
    rw [hc]
    rcases hsync with h | h <;> rw [h]
    · exact A.untouchedS p hp (hds p hd)
    · exact A.untouched p hp (hds p hd)

/-- Every field of `step s e` is a field of `s` or a constant, so each part of the invariant is carried over as it
    stands or through `ActiveInv.transfer`. -/
theorem step_inv (s : St) (e : Ev) (h : Inv s) (ha : allowed s e = true) : Inv (step s e) := by
  obtain ⟨hact, hoth, hsyn, hset⟩ := h
  cases e with
  | start b =>
    simp only [allowed, Bool.and_eq_true, beq_iff_eq, Bool.not_eq_true'] at ha
    obtain ⟨⟨_, hb⟩, hd⟩ := ha
    have hsf : s.synced = s.file := hsyn hd
    refine ⟨fun _ => ?_, fun hne => absurd rfl hne, hsyn, fun hst => by rcases hst with h | h | h <;> cases h⟩
    -- the journal starts empty, on a synced file that is the checkpoint by definition
    exact { len := hb.symm, le := Nat.le_of_eq hb, entries := fun _ he => (nomatch he),
            untouched := fun _ _ _ => rfl, leS := hsf ▸ Nat.le_of_eq hb,
            untouchedS := fun p _ _ => congrArg (·[p]?) hsf }
  | save p =>
    simp only [allowed, Bool.and_eq_true, beq_iff_eq, decide_eq_true_eq, Bool.not_eq_true'] at ha
    obtain ⟨⟨hm, hp⟩, hj⟩ := ha
    have A := hact hm
    have hds : durablySaved s p = false := by
      unfold journaled at hj
      rw [List.any_append, Bool.or_eq_false_iff] at hj
      exact hj.1
    refine ⟨fun _ => A.transfer rfl rfl (fun e he => ?_) (fun _ h => h) (Nat.le_refl _) (fun _ _ _ => rfl) (.inl rfl),
      hoth, hsyn, hset⟩
    have he' : e ∈ (s.saved ++ s.pending) ++ [(p, s.file.getD p 0)] := by rw [List.append_assoc]; exact he
    rcases List.mem_append.mp he' with he | he
    · exact .inl he
    · -- the page saved is still as the checkpoint has it
      cases List.mem_singleton.mp he
      refine .inr ⟨hp, ?_⟩
      show s.ckpt[p]? = some (s.file.getD p 0)
      rw [← A.untouched p hp hds]
      simp [List.getD, Nat.lt_of_lt_of_le hp A.le]
  | jsync =>
    refine ⟨fun hm => (hact hm).transfer rfl rfl (fun e he => .inl ((List.mem_append.mp he).elim id (fun h => absurd h List.not_mem_nil))) (fun q hd => ?_)
      (Nat.le_refl _) (fun _ _ _ => rfl) (.inl rfl), hoth, hsyn, hset⟩
    unfold durablySaved at hd ⊢
    rw [show (step s .jsync).saved = s.saved ++ s.pending from rfl, List.any_append, Bool.or_eq_false_iff] at hd
    exact hd.1
  | write p v =>
    simp only [allowed, Bool.or_eq_true, Bool.and_eq_true, beq_iff_eq, decide_eq_true_eq] at ha
    by_cases hf : s.mode = .fresh
    · have hstep : step s (.write p v) =
          { s with file := writePage s.file p v, ckpt := writePage s.file p v, dirty := true } :=
        if_pos (beq_iff_eq.mpr hf)
      rw [hstep]
      exact ⟨fun hm => Mode.noConfusion (hf.symm.trans hm), fun _ => rfl, fun hd => Bool.noConfusion hd,
        fun hst => by rcases (hf ▸ hst : settled .fresh) with h | h | h <;> cases h⟩
    · obtain ⟨hm, hcov⟩ := ha.resolve_left hf
      have hstep : step s (.write p v) = { s with file := writePage s.file p v, dirty := true } :=
        if_neg (fun h => hf (beq_iff_eq.mp h))
      rw [hstep]
      refine ⟨fun _ => (hact hm).transfer rfl rfl (fun e he => .inl he) (fun _ h => h) (writePage_length_ge _ _ _)
        (fun q hq hd => ?_) (.inl rfl), fun hne => absurd hm hne, fun hd => Bool.noConfusion hd,
        fun hst => by rcases (hm ▸ hst : settled .active) with h | h | h <;> cases h⟩
      -- the page written lies beyond the checkpoint or has a durable entry, so it is not `q`
      have hne : q ≠ p := by
        rcases hcov with hc | hc
        · exact Nat.ne_of_lt (Nat.lt_of_lt_of_le hq hc)
        · intro e
          have hd' : durablySaved s q = false := hd
          rw [e, hc] at hd'; cases hd'
      exact writePage_getElem?_ne _ _ _ _ (Nat.lt_of_lt_of_le hq (hact hm).le) hne
  | dsync =>
    exact ⟨fun hm => (hact hm).transfer rfl rfl (fun e he => .inl he) (fun _ h => h) (Nat.le_refl _)
      (fun _ _ _ => rfl) (.inr rfl), hoth, fun _ => rfl, fun _ => rfl⟩
  | done =>
    simp only [allowed, Bool.and_eq_true, beq_iff_eq, Bool.not_eq_true'] at ha
    exact ⟨fun hm => Mode.noConfusion hm, fun _ => rfl, hsyn, fun _ => ha.2⟩
  | dropLog =>
    simp only [allowed, beq_iff_eq] at ha
    exact ⟨fun hm => Mode.noConfusion hm, fun _ => hoth (fun h => Mode.noConfusion (ha.symm.trans h)), hsyn,
      fun _ => hset (.inl ha)⟩
  | empty =>
    simp only [allowed, beq_iff_eq] at ha
    exact ⟨fun hm => Mode.noConfusion hm, fun _ => hoth (fun h => Mode.noConfusion (ha.symm.trans h)), hsyn,
      fun _ => hset (.inr (.inl ha))⟩

theorem run_inv (es : List Ev) (s s' : St) (h : Inv s) (hr : run s es = some s') : Inv s' := by
  fun_induction run s es with
  | case1 s => cases hr; exact h
  | case2 s e es ha ih => exact ih (step_inv s e h ha) hr
  | case3 s e es ha => cases hr

/-- copying back entries that describe the checkpoint makes every checkpointed page right -/
theorem copy_back (base : Nat) (ckpt : File) :
    ∀ (es : List (Nat × Nat)) (f : File), base ≤ f.length → (∀ e ∈ es, EntryOk base ckpt e) →
      (∀ p, p < base → (∃ e ∈ es, e.1 = p) ∨ f[p]? = ckpt[p]?) →
      base ≤ (es.foldl (fun f e => writePage f e.1 e.2) f).length ∧
      ∀ p, p < base → (es.foldl (fun f e => writePage f e.1 e.2) f)[p]? = ckpt[p]?
  | [], f, hle, _, hcov => by
    refine ⟨hle, fun p hp => ?_⟩
    rcases hcov p hp with ⟨e, he, _⟩ | h
    · cases he
    · exact h
  | e :: es, f, hle, hok, hcov => by
    simp only [List.foldl_cons]
    have heok := hok e (List.mem_cons_self)
    have hlt : e.1 < f.length := Nat.lt_of_lt_of_le heok.1 hle
    apply copy_back base ckpt es (writePage f e.1 e.2)
      (Nat.le_trans hle (writePage_length_ge _ _ _))
      (fun e' he' => hok e' (List.mem_cons_of_mem _ he'))
    intro p hp
    by_cases hin : ∃ e' ∈ es, e'.1 = p
    · exact Or.inl hin
    · right
      by_cases hpe : p = e.1
      · subst hpe; rw [writePage_getElem?_eq _ _ _ hlt]; exact heok.2.symm
      · rw [writePage_getElem?_ne _ _ _ _ (Nat.lt_of_lt_of_le hp hle) hpe]
        rcases hcov p hp with ⟨e', he', hp'⟩ | h
        · rcases List.mem_cons.mp he' with h1 | h1
          · subst h1; exact absurd hp'.symm hpe
          · exact absurd ⟨e', h1, hp'⟩ hin
        · exact h

theorem restoreFrom_not_active {s : St} (hm : s.mode ≠ .active) (g : File) (k : Nat) : restoreFrom s g k = g := by
  unfold restoreFrom
  split
  · exact absurd ‹_› hm
  · rfl

theorem restoreFrom_of_inv (s : St) (h : Inv s) (hnf : s.mode ≠ .fresh) (g : File) (hg : CrashImage s g) (k : Nat) :
    restoreFrom s g k = s.ckpt := by
  obtain ⟨hact, hoth, hsyn, hset⟩ := h
  by_cases hm : s.mode = .active
  · have A := hact hm
    have hsome : ∀ p, p < s.base → p < g.length := by
      intro p hp
      rcases hg p with hgp | hgp
      · rw [List.getElem?_eq_getElem (Nat.lt_of_lt_of_le hp A.le)] at hgp; exact (List.getElem?_eq_some_iff.mp hgp).1
      · rw [List.getElem?_eq_getElem (Nat.lt_of_lt_of_le hp A.leS)] at hgp; exact (List.getElem?_eq_some_iff.mp hgp).1
    have hle : s.base ≤ g.length := by
      cases hb : s.base with
      | zero => exact Nat.zero_le _
      | succ n => exact hsome n (hb ▸ Nat.lt_succ_self n)
    have hcb := copy_back s.base s.ckpt (s.saved ++ s.pending.take k) g hle
      (fun e he => A.entries e ((List.mem_append.mp he).elim (List.mem_append_left _)
        (fun h1 => List.mem_append_right _ (List.mem_of_mem_take h1))))
      (fun p hp => by
        cases hd : durablySaved s p with
        | false =>
          right
          rcases hg p with hgp | hgp <;> rw [hgp]
          · exact A.untouched p hp hd
          · exact A.untouchedS p hp hd
        | true =>
          obtain ⟨e, he, hpe⟩ := List.any_eq_true.mp hd
          exact .inl ⟨e, List.mem_append_left _ he, beq_iff_eq.mp hpe⟩)
    simp only [restoreFrom, hm]
    apply List.ext_getElem?
    intro p
    by_cases hp : p < s.base
    · rw [List.getElem?_take_of_lt hp]; exact hcb.2 p hp
    · have hp' : s.base ≤ p := Nat.le_of_not_lt hp
      rw [List.getElem?_eq_none (by simp; omega), List.getElem?_eq_none (by rw [A.len]; exact hp')]
  · have hst : settled s.mode := by
      cases hmm : s.mode with
      | fresh => exact absurd hmm hnf
      | active => exact absurd hmm hm
      | done => exact .inl rfl
      | dropped => exact .inr (.inl rfl)
      | emptied => exact .inr (.inr rfl)
    -- nothing was written since the last fsync, so the crash image is the file
    have hgf : g = s.file :=
      List.ext_getElem? (fun p => (hg p).elim id (fun hgp => hgp.trans (congrArg (·[p]?) (hsyn (hset hst)))))
    rw [restoreFrom_not_active hm, hgf]
    exact hoth hm

/-- Without loss the crash image is the file itself: `restore s k` and `restoreFrom s s.file k` are the same term once
    the two model definitions are unfolded. -/
theorem restore_of_inv (s : St) (h : Inv s) (k : Nat) : restore s k = s.ckpt := by
  by_cases hf : s.mode = .fresh
  · exact (restoreFrom_not_active (s := s) (fun e => Mode.noConfusion (hf.symm.trans e)) s.file k).trans
      (h.idle (fun e => Mode.noConfusion (hf.symm.trans e)))
  · exact restoreFrom_of_inv s h hf s.file (fun _ => .inl rfl) k

end AxVerif.Journal
