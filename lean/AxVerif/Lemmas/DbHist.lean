/-
  Histories: outputs as lists; how the abstract machine uses its session table (`spec_step_shape`, `Spec.step_agree`);
  from that, repeatable reads, states that differ in the order of their sessions, and erasure of the operations of a
  session that does not commit.
-/
import AxVerif.Lemmas.DbSim
namespace AxVerif.Db
open AxVerif.Db

def finalM (D : Defects) : State → List Op → State
  | σ, [] => σ
  | σ, op :: ops => finalM D (step D σ op).1 ops

def outsM (D : Defects) : State → List Op → List Out
  | _, [] => []
  | σ, op :: ops => (step D σ op).2 :: outsM D (step D σ op).1 ops

theorem runFrom_eq (D : Defects) (ops : List Op) (σ : State) (acc : List Out) :
    runFrom D σ ops acc = (finalM D σ ops, acc.reverse ++ outsM D σ ops) := by
  induction ops generalizing σ acc with
  | nil => simp [runFrom, finalM, outsM]
  | cons op ops ih =>
    simp only [runFrom, finalM, outsM]
    rw [ih]
    simp

namespace Spec

def final : Spec.State → List Op → Spec.State
  | α, [] => α
  | α, op :: ops => final (Spec.step α op).1 ops

def outs : Spec.State → List Op → List Out
  | _, [] => []
  | α, op :: ops => (Spec.step α op).2 :: outs (Spec.step α op).1 ops

theorem runFrom_eq (ops : List Op) (α : Spec.State) (acc : List Out) :
    Spec.runFrom α ops acc = (final α ops, acc.reverse ++ outs α ops) := by
  induction ops generalizing α acc with
  | nil => simp [Spec.runFrom, final, outs]
  | cons op ops ih =>
    simp only [Spec.runFrom, final, outs]
    rw [ih]
    simp

theorem outs_append (a b : List Op) (α : Spec.State) : outs α (a ++ b) = outs α a ++ outs (final α a) b := by
  induction a generalizing α with
  | nil => rfl
  | cons op a ih => exact congrArg (_ :: ·) (ih _)

theorem final_append (a b : List Op) (α : Spec.State) : final α (a ++ b) = final (final α a) b := by
  induction a generalizing α with
  | nil => rfl
  | cons op a ih => exact ih _

theorem outs_length (a : List Op) (α : Spec.State) : (outs α a).length = a.length := by
  induction a generalizing α with
  | nil => rfl
  | cons op a ih => exact congrArg (· + 1) (ih _)

theorem outs_getElem?_append (α : Spec.State) (pre : List Op) (op : Op) (post : List Op) :
    (outs α (pre ++ op :: post))[pre.length]? = some (Spec.step (final α pre) op).2 := by
  rw [outs_append, ← outs_length pre α, List.getElem?_append_right (Nat.le_refl _), Nat.sub_self]
  rfl

end Spec

theorem run_outs (D : Defects) (cat : Catalog) (ops : List Op) : (run D cat ops).2 = outsM D (State.init cat) ops := by
  simp [run, runFrom_eq]

theorem spec_run_outs (cat : Catalog) (ops : List Op) :
    (Spec.run cat ops).2 = Spec.outs (Spec.State.init cat) ops := by
  simp [Spec.run, Spec.runFrom_eq]

theorem refine_outs (cat : Catalog) (ops : List Op) :
    outsM D0 (State.init cat) ops = Spec.outs (Spec.State.init cat) ops := by
  have := (runFrom_ok ops (State.init cat) (Spec.State.init cat) [] (init_rel cat)).1
  rw [runFrom_eq, Spec.runFrom_eq] at this
  simpa using this

theorem refine_run (cat : Catalog) (ops : List Op) : (run Defects.none cat ops).2 = (Spec.run cat ops).2 :=
  (runFrom_ok ops (State.init cat) (Spec.State.init cat) [] (init_rel cat)).1

theorem reach_rel (cat : Catalog) (ops : List Op) :
    Rel (finalM D0 (State.init cat) ops) (Spec.final (Spec.State.init cat) ops) := by
  have := (runFrom_ok ops (State.init cat) (Spec.State.init cat) [] (init_rel cat)).2
  rw [runFrom_eq, Spec.runFrom_eq] at this
  exact this

theorem run_fst (cat : Catalog) (ops : List Op) : (run Defects.none cat ops).1 = finalM D0 (State.init cat) ops := by
  simp [run, runFrom_eq, D0]

theorem reach_run (cat : Catalog) (ops : List Op) :
    Rel (run Defects.none cat ops).1 (Spec.final (Spec.State.init cat) ops) :=
  run_fst cat ops ▸ reach_rel cat ops

theorem run_outs_append (cat : Catalog) (a b : List Op) :
    (run Defects.none cat (a ++ b)).2 =
      Spec.outs (Spec.State.init cat) a ++ Spec.outs (Spec.final (Spec.State.init cat) a) b := by
  rw [refine_run, spec_run_outs, Spec.outs_append]

theorem run_outs_drop (cat : Catalog) (a b : List Op) :
    (run Defects.none cat (a ++ b)).2.drop a.length = Spec.outs (Spec.final (Spec.State.init cat) a) b := by
  rw [run_outs_append, ← Spec.outs_length a (Spec.State.init cat), List.drop_left]

def Op.ofSess (s : String) : Op → Bool
  | .begin s' => s' == s
  | .commit s' => s' == s
  | .rollback s' => s' == s
  | .drop s' => s' == s
  | .exec s' _ => s' == s
  | _ => false

def Stmt.isSel : Stmt → Bool
  | .sel _ _ => true
  | _ => false

/-- `op` is not a write or a transaction-control operation of session `s`:
    an operation of another session, an autocommit operation, or a read of `s` itself -/
def Op.keeps (s : String) : Op → Bool
  | .exec s' st => s' != s || st.isSel
  | op => !op.ofSess s

theorem planStmt_sel (cat : Catalog) (c j : Nat) (v : View) (t : String) (p : Option Pred) :
    (planStmt none cat c j v (.sel t p)).effs = [] ∧
      planStmt none cat c j v (.sel t p) = planStmt none cat 0 0 v (.sel t p) := by
  simp only [planStmt]
  split
  · simp
  · split <;> simp

theorem spec_stmt_sel (cat : Catalog) (c j : Nat) (a : Spec.ATxn) (t : String) (p : Option Pred) :
    (Spec.stmt cat c a j (.sel t p)).1 = a := by
  unfold Spec.stmt
  simp only
  split
  · rfl
  · rw [(planStmt_sel cat c j a.view t p).1]
    cases a; simp

/-- a commit acts on the committed database and the log; it neither reads nor changes the sessions and the clock -/
theorem spec_commitC_frame (cat : Catalog) (committed : View) (log : List (Nat × List Rid)) (a : Spec.ATxn) :
    ∃ c' l' r, ∀ sess clock,
      Spec.State.commitC ⟨cat, committed, log, sess, clock⟩ a = (⟨cat, c', l', sess, clock⟩, r) := by
  unfold Spec.State.commitC Spec.State.commitTxn
  by_cases hc : Spec.conflict log a = true
  · exact ⟨committed, log, some .conflict, fun _ _ => by simp [hc]⟩
  · by_cases hk : constraintsHold cat (takeOver committed a.view a.ws) = true
    · exact ⟨takeOver committed a.view a.ws, log ++ [(a.beginIdx, a.ws)], none, fun _ _ => by simp [hc, hk]⟩
    · exact ⟨committed, log, some .constraint, fun _ _ => by simp [hc, hk]⟩

theorem spec_commitC_cat (α : Spec.State) (a : Spec.ATxn) : (α.commitC a).1.cat = α.cat := by
  rcases spec_commitC_cases α a with ⟨_, e⟩ | ⟨e, _⟩ <;> rw [e]

/-- stated of `stepCore` (a `step` is that and a clock tick) and of any state `β` equal to its result -/
theorem spec_step_shape (α : Spec.State) (op : Op) : ∀ β : Spec.State, (Spec.stepCore α op).1 = β →
    β.cat = α.cat ∧
    (β.committed = α.committed ∨ ∃ a, β.committed = (α.commitC a).1.committed) ∧
    (β.sessions = α.sessions ∨ ∃ n, op.ofSess n = true ∧
      (β.sessions = erase n α.sessions ∨ ∃ a, β.sessions = (n, a) :: erase n α.sessions)) := by
  -- after a commit of `a` the state is `(α.commitC a).1` with, perhaps, its session table changed
  have commit : ∀ {a : Spec.ATxn} {α1 : Spec.State} {r : Option Err}, α.commitC a = (α1, r) →
      α1.cat = α.cat ∧ (∃ a, α1.committed = (α.commitC a).1.committed) ∧ α1.sessions = α.sessions := by
    intro a α1 r hc
    obtain rfl : (α.commitC a).1 = α1 := congrArg Prod.fst hc
    exact ⟨spec_commitC_cat α a, ⟨a, rfl⟩, spec_commitC_sessions α a⟩
  fun_cases Spec.stepCore α op
  case case1 n => rintro _ rfl; exact ⟨rfl, Or.inl rfl, Or.inr ⟨n, beq_self_eq_true n, Or.inr ⟨_, rfl⟩⟩⟩
  case case3 n a _ α1 r hc =>
    rintro _ rfl
    exact ⟨(commit hc).1, Or.inr (commit hc).2.1, Or.inr ⟨n, beq_self_eq_true n, Or.inl (congrArg (erase n) (commit hc).2.2)⟩⟩
  case case5 n a _ => rintro _ rfl; exact ⟨rfl, Or.inl rfl, Or.inr ⟨n, beq_self_eq_true n, Or.inl rfl⟩⟩
  case case7 n a _ => rintro _ rfl; exact ⟨rfl, Or.inl rfl, Or.inr ⟨n, beq_self_eq_true n, Or.inl rfl⟩⟩
  case case9 n st a _ a' p _ => rintro _ rfl; exact ⟨rfl, Or.inl rfl, Or.inr ⟨n, beq_self_eq_true n, Or.inr ⟨_, rfl⟩⟩⟩
  case case11 st a' p _ _ α1 r hc => rintro _ rfl; exact ⟨(commit hc).1, Or.inr (commit hc).2.1, Or.inl (commit hc).2.2⟩
  case case13 sts a' outs _ α1 r hc => rintro _ rfl; exact ⟨(commit hc).1, Or.inr (commit hc).2.1, Or.inl (commit hc).2.2⟩
  -- no session of that name, a failed autocommit statement or batch, tick, nop: only the log may have changed
  all_goals rintro _ rfl; exact ⟨rfl, Or.inl rfl, Or.inl rfl⟩

theorem spec_step_cat (α : Spec.State) (op : Op) : (Spec.step α op).1.cat = α.cat := by
  exact (spec_step_shape α op _ rfl).1

theorem other_session (α : Spec.State) (s : String) (op : Op) (h : op.ofSess s = false) :
    lookup s (Spec.step α op).1.sessions = lookup s α.sessions := by
  have hs : lookup s (Spec.step α op).1.sessions = lookup s (Spec.stepCore α op).1.sessions := rfl
  rw [hs]
  rcases (spec_step_shape α op _ rfl).2.2 with hs | ⟨n, hn, hs | ⟨a, hs⟩⟩ <;> rw [hs]
  all_goals have hne : s ≠ n := fun e' => by rw [e', hn] at h; cases h
  · rw [lookup_erase_if, if_neg hne]
  · rw [lookup_cons_if, if_neg hne, lookup_erase_if, if_neg hne]

theorem keeps_session (α : Spec.State) (s : String) (op : Op) (h : op.keeps s = true) :
    lookup s (Spec.step α op).1.sessions = lookup s α.sessions := by
  by_cases hof : op.ofSess s = true
  · -- a read of `s` itself
    cases op with
    | exec s' st =>
      have e : s' = s := by simpa [Op.ofSess] using hof
      subst e
      cases st with
      | sel t p =>
        unfold Spec.step
        dsimp only [Spec.stepCore]
        cases hl : lookup s' α.sessions with
        | none => exact hl
        | some a =>
          show lookup s' ((s', (Spec.stmt α.cat α.clock a 0 (.sel t p)).1) :: erase s' α.sessions) = _
          rw [lookup_cons_self, spec_stmt_sel]
      | _ => simp [Op.keeps, Stmt.isSel] at h
    | _ => simp [Op.keeps, hof] at h
  · exact other_session α s op (by simpa using hof)

/-- What a relation between session tables has to respect in order to survive the operations of the sessions in `P`:
    the abstract machine reads its table by `lookup` and writes it by `erase` and `cons`, all three at the session of
    the operation. -/
structure SessRel (P : String → Prop) (R : List (String × Spec.ATxn) → List (String × Spec.ATxn) → Prop) : Prop where
  look : ∀ {l1 l2 : List (String × Spec.ATxn)} (n : String), P n → R l1 l2 → lookup n l1 = lookup n l2
  del : ∀ {l1 l2 : List (String × Spec.ATxn)} (n : String), P n → R l1 l2 → R (erase n l1) (erase n l2)
  ins : ∀ {l1 l2 : List (String × Spec.ATxn)} (n : String) (a : Spec.ATxn), P n → R l1 l2 → R ((n, a) :: l1) ((n, a) :: l2)

namespace Spec

structure Agree (R : List (String × ATxn) → List (String × ATxn) → Prop) (α1 α2 : Spec.State) : Prop where
  cat : α1.cat = α2.cat
  committed : α1.committed = α2.committed
  log : α1.log = α2.log
  clock : α1.clock = α2.clock
  sess : R α1.sessions α2.sessions

theorem step_agree {P : String → Prop} {R : List (String × ATxn) → List (String × ATxn) → Prop} (hR : SessRel P R)
    {α1 α2 : Spec.State} (h : Agree R α1 α2) (op : Op) (hop : ∀ n, op.ofSess n = true → P n) :
    (Spec.step α1 op).2 = (Spec.step α2 op).2 ∧ Agree R (Spec.step α1 op).1 (Spec.step α2 op).1 := by
  obtain ⟨c, m, l, s1, k⟩ := α1
  obtain ⟨c2, m2, l2, s2, k2⟩ := α2
  obtain ⟨e1, e2, e3, e4, hs⟩ := h
  simp only at e1 e2 e3 e4 hs
  subst e1 e2 e3 e4
  have keep : ∀ {t1 t2 : List (String × ATxn)} {m' : View} {l' : List (Nat × List Rid)}, R t1 t2 →
      Agree R ⟨c, m', l', t1, k + 1⟩ ⟨c, m', l', t2, k + 1⟩ := fun ht => ⟨rfl, rfl, rfl, rfl, ht⟩
  -- every branch reads the table by `lookup n` and writes it by `erase n` / `cons n` at its own session `n`
  have own : ∀ n, op.ofSess n = true → lookup n s1 = lookup n s2 ∧ R (erase n s1) (erase n s2) ∧
      ∀ a, R ((n, a) :: erase n s1) ((n, a) :: erase n s2) := fun n hn =>
    ⟨hR.look n (hop n hn) hs, hR.del n (hop n hn) hs, fun a => hR.ins n a (hop n hn) (hR.del n (hop n hn) hs)⟩
  have hb : State.beginTxn ⟨c, m, l, s1, k⟩ = State.beginTxn ⟨c, m, l, s2, k⟩ := rfl
  unfold Spec.step
  cases op with
  | begin n => exact ⟨rfl, keep ((own n (beq_self_eq_true n)).2.2 _)⟩
  | commit n =>
    obtain ⟨hl, hd, _⟩ := own n (beq_self_eq_true n)
    dsimp only [Spec.stepCore]
    rw [hl]
    cases lookup n s2 with
    | none => exact ⟨rfl, keep hs⟩
    | some a =>
      obtain ⟨m', l', r, hC⟩ := spec_commitC_frame c m l a
      simp only [hC]
      exact ⟨trivial, keep hd⟩
  | rollback n | drop n =>
    obtain ⟨hl, hd, _⟩ := own n (beq_self_eq_true n)
    dsimp only [Spec.stepCore]
    rw [hl]
    cases lookup n s2 with
    | none => exact ⟨rfl, keep hs⟩
    | some a => exact ⟨rfl, keep hd⟩
  | exec n st =>
    obtain ⟨hl, _, hi⟩ := own n (beq_self_eq_true n)
    dsimp only [Spec.stepCore]
    rw [hl]
    cases lookup n s2 with
    | none => exact ⟨rfl, keep hs⟩
    | some a => exact ⟨rfl, keep (hi _)⟩
  | auto st =>
    dsimp only [Spec.stepCore]
    rw [hb]
    by_cases he : (Spec.stmt c k (State.beginTxn ⟨c, m, l, s2, k⟩) 0 st).2.out.isErr = true
    · rw [if_pos he, if_pos he]; exact ⟨rfl, keep hs⟩
    · rw [if_neg he, if_neg he]
      obtain ⟨m', l', r, hC⟩ := spec_commitC_frame c m l (Spec.stmt c k (State.beginTxn ⟨c, m, l, s2, k⟩) 0 st).1
      simp only [hC]
      exact ⟨trivial, keep hs⟩
  | batch sts =>
    dsimp only [Spec.stepCore]
    rw [hb]
    rcases Spec.batch c k (State.beginTxn ⟨c, m, l, s2, k⟩) 0 sts with ⟨a', outs, r⟩
    cases r with
    | some e => exact ⟨rfl, keep hs⟩
    | none =>
      obtain ⟨m', l', r, hC⟩ := spec_commitC_frame c m l a'
      simp only [hC]
      exact ⟨trivial, keep hs⟩
  | tick | nop => exact ⟨rfl, keep hs⟩

end Spec

theorem keeps_final (s : String) (ops : List Op) (α : Spec.State) (h : ∀ op ∈ ops, op.keeps s = true) :
    lookup s (Spec.final α ops).sessions = lookup s α.sessions ∧ (Spec.final α ops).cat = α.cat := by
  induction ops generalizing α with
  | nil => exact ⟨rfl, rfl⟩
  | cons op ops ih =>
    obtain ⟨h1, h2⟩ := ih (Spec.step α op).1 (fun o ho => h o (List.mem_cons_of_mem _ ho))
    exact ⟨h1.trans (keeps_session α s op (h op (List.mem_cons_self ..))), h2.trans (spec_step_cat α op)⟩

theorem spec_read_out (α : Spec.State) (s t : String) (p : Option Pred) :
    (Spec.step α (.exec s (.sel t p))).2 =
      match lookup s α.sessions with
      | none => .noSession
      | some a => .stmt (planStmt none α.cat 0 0 a.view (.sel t p)).out := by
  unfold Spec.step
  dsimp only [Spec.stepCore]
  cases lookup s α.sessions with
  | none => rfl
  | some a =>
    simp only [Spec.stmt]
    rw [(planStmt_sel α.cat α.clock 0 a.view t p).2]
    split <;> rfl

theorem spec_repeatable (α : Spec.State) (pre mid : List Op) (s t : String) (p : Option Pred)
    (hmid : ∀ op ∈ mid, op.keeps s = true) :
    ∃ o, (Spec.outs α (pre ++ .exec s (.sel t p) :: (mid ++ [.exec s (.sel t p)])))[pre.length]? = some o ∧
         (Spec.outs α (pre ++ .exec s (.sel t p) :: (mid ++ [.exec s (.sel t p)])))[pre.length + 1 + mid.length]? = some o := by
  refine ⟨_, Spec.outs_getElem?_append α pre _ _, ?_⟩
  -- the second read stands behind `pre ++ read :: mid`
  have h2 := Spec.outs_getElem?_append α (pre ++ .exec s (.sel t p) :: mid) (.exec s (.sel t p)) []
  rw [List.append_assoc, List.cons_append, List.length_append, List.length_cons, Nat.add_comm mid.length 1,
    ← Nat.add_assoc] at h2
  rw [h2, spec_read_out, spec_read_out, Spec.final_append]
  obtain ⟨h1, h2⟩ := keeps_final s mid (Spec.step (Spec.final α pre) (.exec s (.sel t p))).1 hmid
  have hr : (Op.exec s (.sel t p)).keeps s = true := by simp [Op.keeps, Stmt.isSel]
  have e : Spec.final (Spec.final α pre) (.exec s (.sel t p) :: mid) =
      Spec.final (Spec.step (Spec.final α pre) (.exec s (.sel t p))).1 mid := rfl
  rw [e, h1, h2, keeps_session _ s _ hr, spec_step_cat]

structure EqSess (α1 α2 : Spec.State) : Prop where
  cat : α1.cat = α2.cat
  committed : α1.committed = α2.committed
  log : α1.log = α2.log
  clock : α1.clock = α2.clock
  sess : ∀ n, lookup n α1.sessions = lookup n α2.sessions

theorem EqSess.refl (α : Spec.State) : EqSess α α := ⟨rfl, rfl, rfl, rfl, fun _ => rfl⟩

theorem sessRel_sameLookups :
    SessRel (fun _ => True) (fun l1 l2 : List (String × Spec.ATxn) => ∀ m, lookup m l1 = lookup m l2) where
  look n _ h := h n
  del n _ h m := by rw [lookup_erase_if, lookup_erase_if, h m]
  ins n a _ h m := by rw [lookup_cons_if, lookup_cons_if, h m]

theorem outs_eqSess (ops : List Op) (α1 α2 : Spec.State) (h : EqSess α1 α2) : Spec.outs α1 ops = Spec.outs α2 ops := by
  have key : ∀ (ops : List Op) (α1 α2 : Spec.State),
      Spec.Agree (fun l1 l2 => ∀ m, lookup m l1 = lookup m l2) α1 α2 → Spec.outs α1 ops = Spec.outs α2 ops := by
    intro ops
    induction ops with
    | nil => exact fun _ _ _ => rfl
    | cons op ops ih =>
      intro α1 α2 h
      obtain ⟨ho, h'⟩ := Spec.step_agree sessRel_sameLookups h op (fun _ _ => trivial)
      simp only [Spec.outs, ho, ih _ _ h']
  exact key ops α1 α2 ⟨h.cat, h.committed, h.log, h.clock, h.sess⟩

def eraseSess (s : String) (ops : List Op) : List Op := ops.map (fun op => if op.ofSess s then .nop else op)

def maskOuts (s : String) : List Op → List Out → List Out
  | op :: ops, o :: os => (if op.ofSess s then Out.none else o) :: maskOuts s ops os
  | _, _ => []

def Op.isCommitOf (s : String) : Op → Bool
  | .commit s' => s' == s
  | _ => false

def noCommitOk (s : String) : List Op → List Out → Bool
  | op :: ops, o :: os => !(op.isCommitOf s && o == .ok) && noCommitOk s ops os
  | _, _ => true

def dropSess (s : String) (α : Spec.State) : Spec.State := { α with sessions := erase s α.sessions }

theorem dropSess_absent (s : String) (α : Spec.State) (h : lookup s α.sessions = none) : dropSess s α = α := by
  unfold dropSess; rw [erase_absent s _ h]

theorem sessRel_erased (s : String) :
    SessRel (· ≠ s) (fun l1 l2 : List (String × Spec.ATxn) => l1 = erase s l2) where
  look n hn h := by rw [h, lookup_erase_ne s n _ hn]
  del n _ h := by rw [h, erase_comm]
  ins n a hn h := by rw [h, erase_cons_ne s n a _ hn]

theorem step_dropSess_other (s : String) (α : Spec.State) (op : Op) (hof : op.ofSess s = false) :
    Spec.step (dropSess s α) op = (dropSess s (Spec.step α op).1, (Spec.step α op).2) := by
  obtain ⟨ho, h'⟩ := Spec.step_agree (sessRel_erased s) (α1 := dropSess s α) (α2 := α) ⟨rfl, rfl, rfl, rfl, rfl⟩ op
    (fun n hn e => by rw [e, hof] at hn; cases hn)
  rw [← ho]
  generalize Spec.step (dropSess s α) op = x1 at h' ⊢
  generalize (Spec.step α op).1 = x2 at h'
  obtain ⟨⟨c1, m1, l1, s1, k1⟩, o⟩ := x1
  obtain ⟨c2, m2, l2, s2, k2⟩ := x2
  obtain ⟨e1, e2, e3, e4, e5⟩ := h'
  simp only at e1 e2 e3 e4 e5
  subst e1 e2 e3 e4 e5
  rfl

theorem spec_commitC_refused_state (α : Spec.State) (a : Spec.ATxn) (e : Err)
    (h : (α.commitC a).2 = some e) : (α.commitC a).1 = α := by
  rcases spec_commitC_cases α a with ⟨_, e'⟩ | ⟨e', _⟩ <;> rw [e'] at h ⊢
  cases h

theorem step_dropSess_own (s : String) (α : Spec.State) (op : Op) (hof : op.ofSess s = true)
    (hnc : (op.isCommitOf s && (Spec.step α op).2 == .ok) = false) :
    (Spec.step (dropSess s α) .nop).1 = dropSess s (Spec.step α op).1 := by
  unfold Spec.step at hnc ⊢
  revert hnc
  fun_cases Spec.stepCore α op
  case case1 n =>
    obtain rfl : n = s := beq_iff_eq.1 hof
    intro _
    simp only [Spec.stepCore, dropSess, erase_cons_self, erase_erase_self]
  case case3 n a _ α1 r hc =>
    obtain rfl : n = s := beq_iff_eq.1 hof
    intro hnc
    cases r with
    | none => simp [Op.isCommitOf, outOfCommit] at hnc
    | some e =>
      obtain rfl : α = α1 := (spec_commitC_refused_state α a e (by rw [hc])).symm.trans (congrArg Prod.fst hc)
      simp only [Spec.stepCore, dropSess, erase_erase_self]
  case case5 n a _ =>
    obtain rfl : n = s := beq_iff_eq.1 hof
    intro _
    simp only [Spec.stepCore, dropSess, erase_erase_self]
  case case7 n a _ =>
    obtain rfl : n = s := beq_iff_eq.1 hof
    intro _
    simp only [Spec.stepCore, dropSess, erase_erase_self]
  case case9 n st a _ a' p _ =>
    obtain rfl : n = s := beq_iff_eq.1 hof
    intro _
    simp only [Spec.stepCore, dropSess, erase_cons_self, erase_erase_self]
  -- no transaction in the session: nothing happens
  case case2 | case4 | case6 | case8 => exact fun _ => rfl
  -- an autocommit statement, a batch, tick, nop belong to no session
  all_goals cases hof

/-- a transaction whose commit is refused is erased like one that rolls back -/
theorem spec_erase_from (s : String) (ops : List Op) (α : Spec.State)
    (hnc : noCommitOk s ops (Spec.outs α ops) = true) :
    Spec.final (dropSess s α) (eraseSess s ops) = dropSess s (Spec.final α ops) ∧
    Spec.outs (dropSess s α) (eraseSess s ops) = maskOuts s ops (Spec.outs α ops) := by
  induction ops generalizing α with
  | nil => exact ⟨rfl, rfl⟩
  | cons op ops ih =>
    simp only [Spec.outs, noCommitOk, Bool.and_eq_true, Bool.not_eq_true'] at hnc
    obtain ⟨ih1, ih2⟩ := ih (Spec.step α op).1 hnc.2
    simp only [eraseSess, List.map_cons, Spec.outs, Spec.final, maskOuts]
    simp only [eraseSess] at ih1 ih2
    cases hof : op.ofSess s with
    | true =>
      simp only [if_true]
      rw [step_dropSess_own s α op hof hnc.1, ih1, ih2]
      exact ⟨rfl, rfl⟩
    | false =>
      simp only [Bool.false_eq_true, if_false]
      rw [step_dropSess_other s α op hof]
      exact ⟨ih1, by rw [ih2]⟩

theorem noCommitOk_of_no_commit (s : String) (ops : List Op) (outs : List Out) (h : ∀ op ∈ ops, op ≠ .commit s) :
    noCommitOk s ops outs = true := by
  fun_induction noCommitOk s ops outs
  case case2 => rfl
  case case1 op ops o os ih =>
    have h1 : op.isCommitOf s = false := by
      cases op with
      | commit s' => exact beq_eq_false_iff_ne.2 (fun e => h _ (List.mem_cons_self ..) (e ▸ rfl))
      | _ => rfl
    rw [h1, ih (fun o ho => h o (List.mem_cons_of_mem _ ho))]
    rfl

theorem spec_erase_segment (s : String) (α : Spec.State) (seg post : List Op) (hp : lookup s α.sessions = none)
    (hnc : noCommitOk s seg (Spec.outs α seg) = true) (hs : lookup s (Spec.final α seg).sessions = none) :
    Spec.outs α (eraseSess s seg ++ post) = maskOuts s seg (Spec.outs α seg) ++ Spec.outs (Spec.final α seg) post := by
  obtain ⟨e1, e2⟩ := spec_erase_from s seg α hnc
  rw [dropSess_absent s _ hp] at e1 e2
  rw [dropSess_absent s _ hs] at e1
  rw [Spec.outs_append, e1, e2]

structure EqExcept (s : String) (α1 α2 : Spec.State) : Prop where
  cat : α1.cat = α2.cat
  committed : α1.committed = α2.committed
  log : α1.log = α2.log
  clock : α1.clock = α2.clock
  others : ∀ n, n ≠ s → lookup n α1.sessions = lookup n α2.sessions
  gone : lookup s α2.sessions = none

theorem eqExcept_init (s : String) (cat : Catalog) : EqExcept s (Spec.State.init cat) (Spec.State.init cat) :=
  ⟨rfl, rfl, rfl, rfl, fun _ _ => rfl, rfl⟩

theorem spec_erase (s : String) (ops : List Op) (α1 α2 : Spec.State) (h : EqExcept s α1 α2)
    (hnc : ∀ op ∈ ops, op ≠ .commit s) : maskOuts s ops (Spec.outs α1 ops) = Spec.outs α2 (eraseSess s ops) := by
  rw [← (spec_erase_from s ops α1 (noCommitOk_of_no_commit s ops _ hnc)).2]
  apply outs_eqSess
  refine ⟨h.cat, h.committed, h.log, h.clock, fun n => ?_⟩
  show lookup n (erase s α1.sessions) = lookup n α2.sessions
  rw [lookup_erase_if]
  by_cases e : n = s
  · rw [if_pos e, e, h.gone]
  · rw [if_neg e, h.others n e]

theorem spec_failed_exec_eqSess (α : Spec.State) (s : String) (st : Stmt) (e : Err)
    (h : (Spec.step α (.exec s st)).2 = .stmt (.err e)) :
    EqSess (Spec.step α (.exec s st)).1 (Spec.step α .nop).1 := by
  unfold Spec.step at h ⊢
  dsimp only [Spec.stepCore] at h ⊢
  cases hl : lookup s α.sessions with
  | none => exact EqSess.refl _
  | some a =>
    rw [hl] at h
    simp only [Out.stmt.injEq] at h
    refine ⟨rfl, rfl, rfl, rfl, ?_⟩
    intro n
    show lookup n ((s, (Spec.stmt α.cat α.clock a 0 st).1) :: erase s α.sessions) = lookup n α.sessions
    have ha : (Spec.stmt α.cat α.clock a 0 st).1 = a := by
      unfold Spec.stmt
      simp only
      have : (planStmt none α.cat α.clock 0 a.view st).out.isErr = true := by
        unfold Spec.stmt at h; simp only at h
        split at h <;> (simp only at h; rw [h]; rfl)
      simp [this]
    rw [ha, lookup_cons_if, lookup_erase_if]
    by_cases e' : n = s
    · subst e'; simp [hl]
    · simp [e']

def Out.failed : Out → Bool
  | .stmt (.err _) => true
  | .batchErr _ => true
  | _ => false

def eraseTxn (tid : Nat) (rows : List Row) : List Row :=
  rows.map (fun r => { r with versions := r.versions.filter (fun v => v.creator != tid),
                              deleters := r.deleters.filter (fun d => d != tid) })

theorem find_filter_skip {p q : α → Bool} (l : List α) (h : ∀ x ∈ l, p x = true → q x = true) :
    (l.filter q).find? p = l.find? p := by
  rw [List.find?_filter]
  refine find_congr_mem l (fun x hx => ?_)
  cases hp : p x with
  | false => simp
  | true => simp [h x hx hp]

theorem any_filter_skip {p q : α → Bool} (l : List α) (h : ∀ x ∈ l, p x = true → q x = true) :
    (l.filter q).any p = l.any p := by
  rw [List.any_filter]
  refine any_congr_mem l (fun x hx => ?_)
  cases hp : p x with
  | false => simp
  | true => simp [h x hx hp]

theorem view_eraseTxn (S : Snapshot) (tid : Nat) (rows : List Row) (h : S.sees tid = false) :
    view D0 S (eraseTxn tid rows) = view D0 S rows := by
  unfold view eraseTxn
  rw [List.filterMap_map]
  apply filterMap_congr_mem
  intro r _
  simp only [Function.comp, Row.toARow]
  rw [rowVisible_none, rowVisible_none]
  have h1 : (r.deleters.filter (fun d => d != tid)).any S.sees = r.deleters.any S.sees := by
    apply any_filter_skip
    intro d _ hd
    simp only [bne_iff_ne, ne_eq]
    intro e; subst e; rw [h] at hd; cases hd
  have h2 : (r.versions.filter (fun v => v.creator != tid)).find? (fun v => S.sees v.creator) =
      r.versions.find? (fun v => S.sees v.creator) := by
    apply find_filter_skip
    intro v _ hv
    simp only [bne_iff_ne, ne_eq]
    intro e; rw [e, h] at hv; cases hv
  simp only [h1, h2]

end AxVerif.Db
