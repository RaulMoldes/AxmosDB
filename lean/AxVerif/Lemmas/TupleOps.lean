/-
  Helper lemmas for the tuple model, part 5: the writers on bytes refine the logical operations
  (`build`, `addVersion`, `delete`, `vacuumWith`), size bookkeeping, and the logical vacuum theorem.
-/
import AxVerif.Lemmas.TupleChain
namespace AxVerif.Tuple
open AxVerif

theorem applyMods_eq (m : Mods) (vs : List Cell) (i : Nat) :
    applyMods m i vs = vs.mapIdx fun j v => newCell m (i + j) v := by
  fun_induction applyMods m i vs with
  | case1 => rfl
  | case2 i v vs ih =>
    rw [ih, List.mapIdx_cons]
    simp only [Nat.add_zero, Nat.add_assoc, Nat.add_comm 1]

theorem applyMods_length (m : Mods) (i : Nat) (vs : List Cell) : (applyMods m i vs).length = vs.length := by
  rw [applyMods_eq, List.length_mapIdx]

theorem applyMods_getElem? (m : Mods) (vs : List Cell) (i j : Nat) :
    (applyMods m i vs)[j]? = (vs[j]?).map (newCell m (i + j)) := by
  rw [applyMods_eq, List.getElem?_mapIdx]

theorem changedIdx_eq (m : Mods) (vs : List Cell) (i : Nat) :
    changedIdx m i vs = (List.range' i vs.length).filter fun x => (lookupMod m x).isSome := by
  fun_induction changedIdx m i vs with
  | case1 => rfl
  | case2 i v vs ih =>
    rw [ih, List.length_cons, List.range'_succ, List.filter_cons]
    cases lookupMod m i <;> rfl

theorem mem_changedIdx (m : Mods) (vs : List Cell) (x : Nat) :
    x ∈ changedIdx m 0 vs ↔ x < vs.length ∧ (lookupMod m x).isSome := by
  rw [changedIdx_eq, List.mem_filter, List.mem_range'_1, Nat.zero_add]
  exact and_congr_left' (and_iff_right (Nat.zero_le x))

theorem changedIdx_length_le (m : Mods) (vs : List Cell) (i : Nat) : (changedIdx m i vs).length ≤ vs.length := by
  rw [changedIdx_eq]
  exact Nat.le_trans (List.length_filter_le _ _) (Nat.le_of_eq List.length_range')

def ModsFit (P : Params) (sch : Schema) (m : Mods) : Prop :=
  ∀ e, e ∈ m → ∃ k, sch.vals[e.1]? = some k ∧ (∀ p, e.2 = some p → FitsKind P k p)

theorem ModsFit.single {P : Params} {sch : Schema} {i : Nat} {k : Kind} {c : Cell} (hk : sch.vals[i]? = some k)
    (hc : ∀ p, c = some p → FitsKind P k p) : ModsFit P sch [(i, c)] := by
  intro e he
  cases List.mem_singleton.mp he
  exact ⟨k, hk, hc⟩

theorem lookupMod_mem (m : Mods) (i : Nat) (c : Cell) (h : lookupMod m i = some c) : (i, c) ∈ m := by
  fun_induction lookupMod m i with
  | case1 => cases h
  | case2 v rest => cases h; exact List.mem_cons_self ..
  | case3 j v rest hne ih => exact List.mem_cons_of_mem _ (ih h)

theorem applyMods_fit {P : Params} {sch : Schema} {m : Mods} (hm : ModsFit P sch m) {vs : List Cell}
    (h : CellsFit P sch.vals vs) : CellsFit P sch.vals (applyMods m 0 vs) := by
  refine CellsFit.of_get ((applyMods_length m 0 vs).trans h.length) fun j k p hk hc => ?_
  rw [applyMods_getElem?, Nat.zero_add] at hc
  cases hv : vs[j]? with
  | none => rw [hv] at hc; cases hc
  | some v =>
    rw [hv, Option.map_some, newCell] at hc
    cases hl : lookupMod m j with
    | none =>
      rw [hl] at hc
      exact h.get j k p hk (hv.trans (congrArg some (Option.some.inj hc)))
    | some c =>
      rw [hl] at hc
      obtain ⟨k', hk', hfit⟩ := hm (j, c) (lookupMod_mem m j c hl)
      cases hk.symm.trans hk'
      exact hfit p (Option.some.inj hc)

theorem encBlock_cons_ne_nil {P : Params} (hP : P.Wf) (sch : Schema) (o : Nat) (x : LVersion × List Nat)
    (rest : List (LVersion × List Nat)) : (encBlock P sch o (x :: rest)).isEmpty = false := by
  have := encBlock_length_ge hP sch (x :: rest) o
  cases h : encBlock P sch o (x :: rest) with
  | nil => rw [h] at this; cases this
  | cons _ _ => rfl

/-- what `add_version_with` relies on when it copies the older deltas behind the new one -/
theorem encBlock_eq_pad {P : Params} (hP : P.Wf) (sch : Schema) (o : Nat) (x : LVersion × List Nat)
    (rest : List (LVersion × List Nat)) :
    encBlock P sch o (x :: rest) = padTo o P.dhAlign ++ encBlock P sch 0 (x :: rest) := by
  obtain ⟨v, c⟩ := x
  simp only [encBlock, padTo_of_dvd hP.dha_pos (Nat.dvd_zero _), List.nil_append, Nat.zero_add, List.length_append]
  rw [← Nat.add_assoc, add_padTo_length hP.dha_pos, encBlock_shift hP sch (dvd_alignUp o _), List.append_assoc]

/-- what `add_version_with` finds behind the (aligned) end of the main part: the delta block -/
theorem drop_encode {P : Params} (hP : P.Wf) (sch : Schema) (L : LRow) :
    (encode P sch L).drop (alignUp (L.main P sch).length P.dhAlign)
      = encBlock P sch 0 L.hist := by
  rw [encode_eq]
  generalize L.main P sch = M
  cases hE : (L.hist.isEmpty && !L.trail) with
  | true =>
    rw [List.isEmpty_iff.mp (Bool.and_eq_true_iff.mp hE).1]
    simp only [if_true, encBlock, List.append_nil]
    exact List.drop_eq_nil_of_le (alignUp_ge hP.dha_pos)
  | false => exact List.drop_left' (by rw [List.length_append]; exact add_padTo_length hP.dha_pos)

theorem update_eq (L : LRow) (t : Nat) (m : Mods) (hme : m.isEmpty = false) :
    L.update t m = { L with cur := { creator := t, ver := (L.cur.ver + 1) % 256, vals := applyMods m 0 L.cur.vals },
                            hist := (L.cur, changedIdx m 0 L.cur.vals) :: L.hist, deleter := none } := by
  rw [LRow.update, hme]; rfl

/-- the bytes of an updated row, in the shape `add_version_with` assembles them -/
theorem encode_update {P : Params} (hP : P.Wf) (sch : Schema) (L : LRow) (m : Mods) (t : Nat) (hme : m.isEmpty = false) :
    encode P sch (L.update t m) =
      let main := encMain P sch t none ((L.cur.ver + 1) % 256) L.keys (applyMods m 0 L.cur.vals)
      let body := main ++ padTo main.length P.dhAlign
        ++ encDelta P sch L.cur.creator L.cur.ver L.cur.vals (changedIdx m 0 L.cur.vals)
      if (encBlock P sch 0 L.hist).isEmpty then body else body ++ padTo body.length P.dhAlign ++ encBlock P sch 0 L.hist := by
  rw [update_eq L t m hme, encode_eq]
  simp only [LRow.main, List.isEmpty_cons, Bool.false_and, Bool.false_eq_true, if_false, encBlock,
    padTo_of_dvd hP.dha_pos (Nat.dvd_zero _), List.nil_append, Nat.zero_add]
  generalize encMain P sch t none ((L.cur.ver + 1) % 256) L.keys (applyMods m 0 L.cur.vals) = M'
  generalize encDelta P sch L.cur.creator L.cur.ver L.cur.vals (changedIdx m 0 L.cur.vals) = Dl
  cases L.hist with
  | nil => simp only [encBlock, List.isEmpty_nil, if_true, List.append_nil, List.append_assoc]
  | cons x rest =>
    -- the old block moves behind the new delta: to the next aligned offset, and nothing inside it changes
    have hB : P.dhAlign ∣ (M' ++ padTo M'.length P.dhAlign).length := by
      rw [List.length_append, add_padTo_length hP.dha_pos]; exact dvd_alignUp _ _
    rw [encBlock_cons_ne_nil hP sch 0 x rest, if_neg Bool.false_ne_true, encBlock_eq_pad hP sch Dl.length,
      List.length_append (bs := Dl), padTo_shift hP.dha_pos hB]
    simp only [List.append_assoc]

theorem addVersion_encode {P : Params} (hP : P.Wf) (sch : Schema) (L : LRow) (hw : WfRow P sch L) (m : Mods) (t : Nat)
    (hm : ModsFit P sch m) :
    addVersion {} P sch (encode P sch L) m t = .ok (encode P sch (L.update t m)) := by
  cases hme : m.isEmpty with
  | true => simp only [addVersion, LRow.update, hme, if_true]
  | false =>
    obtain ⟨lay, hpl, hxmin, _, hver, hend, hl⟩ := parseLast_encode hP hw (At.self _)
    have hex := drop_encode hP sch L
    rw [← hend] at hex
    have hidx : m.any (fun e => decide (sch.vals.length ≤ e.1)) = false := by
      rw [List.any_eq_false]
      intro e he
      obtain ⟨k, hk, _⟩ := hm e he
      simpa using (List.getElem?_eq_some_iff.mp hk).1
    rw [encode_update hP sch L m t hme]
    simp only [addVersion, hme, Bool.false_eq_true, if_false, hidx, hpl, toRow_of_layoutOk hl, hex,
      hxmin, hver, Bool.false_and]

theorem update_wf (P : Params) (sch : Schema) (L : LRow) (hw : WfRow P sch L) (m : Mods) (t : Nat)
    (hm : ModsFit P sch m) (ht : t < 2 ^ 64) (hn : sch.vals.length < 256) : WfRow P sch (L.update t m) := by
  cases hme : m.isEmpty with
  | true => rwa [LRow.update, hme]
  | false =>
    rw [update_eq L t m hme]
    have hlen := hw.cur.length
    refine ⟨hw.keys, ?_, ht, Nat.mod_lt _ (by decide), trivial, ⟨hw.cur, ?_, ?_, hw.creator, hw.ver⟩, ?_, hw.hist⟩
    · exact applyMods_fit hm hw.cur
    · intro i hi
      have := ((mem_changedIdx m L.cur.vals i).mp hi).1
      omega
    · have := changedIdx_length_le m L.cur.vals 0
      omega
    · -- a column the update did not touch keeps its value
      intro j hjl hj
      rw [applyMods_getElem?, Nat.zero_add, List.getElem?_eq_getElem (hlen ▸ hjl), Option.map_some, newCell]
      cases hl : lookupMod m j with
      | none => rfl
      | some c => exact absurd ((mem_changedIdx m L.cur.vals j).mpr ⟨hlen ▸ hjl, by rw [hl]; rfl⟩) hj

/-- without the `boolWriteNeedsLastByte` defect `build` cannot panic: it returns the main part -/
theorem build_ok (P : Params) (sch : Schema) (row : Row) (x : Nat) :
    build {} P sch row x = .ok (encMain P sch x none 0 row.keys row.vals) := rfl

theorem build_encode (P : Params) (sch : Schema) (row : Row) (x : Nat) :
    build {} P sch row x = .ok (encode P sch (LRow.insert row.keys row.vals x)) := by
  rw [build_ok, encode_eq]
  exact congrArg Except.ok ((List.append_nil _).symm.trans (List.append_nil _).symm)

theorem insert_wf (P : Params) (sch : Schema) (row : Row) (x : Nat)
    (hk : CellsFit P sch.keys (row.keys.map some)) (hv : CellsFit P sch.vals row.vals) (hx : x < 2 ^ 64) :
    WfRow P sch (LRow.insert row.keys row.vals x) :=
  ⟨hk, hv, hx, Nat.zero_lt_succ _, trivial, trivial⟩

theorem encode_header {P : Params} (hP : P.Wf) (sch : Schema) (L : LRow) :
    ∃ rest, ∀ del, encode P sch { L with deleter := del } = encHeader P L.cur.creator del L.cur.ver ++ rest := by
  refine ⟨(encode P sch L).drop P.hdrSize, fun del => ?_⟩
  simp only [encode, encMain, List.length_append, encHeader_length hP, List.append_assoc]
  rw [List.drop_left' (encHeader_length hP ..)]

theorem delete_encode {P : Params} (hP : P.Wf) (sch : Schema) (L : LRow) (hw : WfRow P sch L) (t : Nat) :
    delete P (encode P sch L) t = .ok (encode P sch (L.delete t)) := by
  obtain ⟨rest, hrest⟩ := encode_header hP sch L
  rw [LRow.delete, hrest (some t), show encode P sch L = _ from hrest L.deleter, delete,
    readHeader_encHeader hP hw.creator hw.deleter hw.ver (At.left (At.self _))]
  simp only [encHeader, List.append_assoc]
  rw [take8_le64, drop16_le64]
  rfl

theorem delete_wf (P : Params) (sch : Schema) (L : LRow) (hw : WfRow P sch L) (t : Nat) (ht : t < 2 ^ 63) :
    WfRow P sch (L.delete t) :=
  ⟨hw.keys, hw.cur, hw.creator, hw.ver, ht, hw.hist⟩

theorem encBlock_keepHist_prefix (P : Params) (sch : Schema) (h : Nat) (rest : List (LVersion × List Nat)) (o : Nat)
    (cov : Bool) : ∃ tl, encBlock P sch o rest = encBlock P sch o (keepHist h cov rest) ++ tl := by
  fun_induction keepHist h cov rest generalizing o with
  | case1 => exact ⟨[], rfl⟩
  | case3 => exact ⟨_, rfl⟩
  | case2 cov v c rest hge ih | case4 cov v c rest hlt hnotCovered ih =>
    obtain ⟨tl, htl⟩ := ih (o + (padTo o P.dhAlign ++ encDelta P sch v.creator v.ver v.vals c).length)
    exact ⟨tl, by simp only [encBlock, List.append_assoc]; rw [htl]⟩

theorem vacLoop_block {P : Params} (hP : P.Wf) (sch : Schema) {d : Bytes} (h : Nat) :
    ∀ (rest : List (LVersion × List Nat)) (c : Nat) (newer : List Cell) (cov : Bool) (fuel : Nat),
      At d c (encBlock P sch c rest) → d.length < (encBlock P sch c rest).length + c + P.dhSize →
      HistOk P sch newer rest → rest.length ≤ fuel →
      vacLoop {} P sch d h fuel c cov c = .ok (c + (encBlock P sch c (keepHist h cov rest)).length) := by
  intro rest
  induction rest with
  | nil =>
    intro c _ cov fuel _ hend _ _
    cases fuel with
    | zero => rfl
    | succ fuel =>
      rw [encBlock, List.length_nil, Nat.zero_add] at hend
      simp only [vacLoop, moreDeltas_of_short hP hend]
      rfl
  | cons x rest ih =>
    intro c newer cov fuel hb hend hh hfuel
    obtain ⟨v, ch⟩ := x
    cases fuel with
    | zero => cases hfuel
    | succ fuel =>
      obtain ⟨hD, hR⟩ := encBlock_cons_at hP hb
      obtain ⟨hd, hs, hx, _⟩ := delta_reads hP sch hh.1 hD
      have hsk := skipDelta_enc hP sch hh.1 hD
      have hmore := moreDeltas_of_at hD (Nat.le_of_lt (encDelta_length_gt hP sch ..))
      rw [encBlock_cons_length hP sch c v ch rest] at hend
      have ih := fun cov' => ih _ v.vals cov' fuel hR hend hh.2.2 (Nat.le_of_succ_le_succ hfuel)
      have hlen := fun cov' => encBlock_cons_length hP sch c v ch (keepHist h cov' rest)
      simp only [vacLoop, hmore, if_true, hs, hx, hsk, Bool.not_false, Bool.true_and, keepHist]
      by_cases h1 : h ≤ v.creator
      · simp only [h1, Nat.not_lt.mpr h1, decide_true, decide_false, Bool.true_or, Bool.or_false, if_true, ih]
        rw [Nat.add_comm c, hlen, Nat.add_comm]
      · cases cov with
        | true => simp only [h1, decide_false, Bool.not_true, Bool.or_false, Bool.false_eq_true, if_false, if_true]; rfl
        | false =>
          simp only [h1, Nat.lt_of_not_le h1, decide_true, decide_false, Bool.not_false, Bool.or_true,
            Bool.false_eq_true, if_true, if_false, ih]
          rw [Nat.add_comm c, hlen, Nat.add_comm]

theorem vacuum_encode {P : Params} (hP : P.Wf) (sch : Schema) (L : LRow) (hw : WfRow P sch L) (h : Nat) :
    vacuumWith {} P sch (encode P sch L) h
      = .ok ((encode P sch L).length - (encode P sch (L.vacuum h)).length, encode P sch (L.vacuum h)) := by
  obtain ⟨lay, hpl, hxmin, _, _, hend, _⟩ := parseLast_encode hP hw (At.self _)
  simp only [vacuumWith, hpl, hend, hxmin]
  cases hh : L.hist with
  | nil => rw [if_pos (encode_length_of_nil hP sch hh), LRow.vacuum, hh, List.isEmpty_nil, if_pos rfl, Nat.sub_self]
  | cons x rest =>
    have hE : (L.hist.isEmpty && !L.trail) = false := by rw [hh]; rfl
    have hv : L.vacuum h = { L with hist := keepHist h (decide (L.cur.creator < h)) L.hist, trail := true } := by
      rw [LRow.vacuum, hh]; rfl
    obtain ⟨hb, hlen⟩ := encode_block hP sch hE (At.self _)
    have e1 := encode_gap hP sch hE
    generalize hM : L.main P sch = M at hb hlen e1 ⊢
    have e2 : encode P sch (L.vacuum h) = M ++ padTo M.length P.dhAlign
        ++ encBlock P sch (alignUp M.length P.dhAlign) (keepHist h (decide (L.cur.creator < h)) L.hist) := by
      rw [hv, ← hM]
      exact encode_gap hP sch (L := { L with hist := _, trail := true }) (Bool.and_false _)
    have hlb := encBlock_length_ge hP sch L.hist (alignUp M.length P.dhAlign)
    have hpos : 0 < L.hist.length := by rw [hh]; exact Nat.zero_lt_succ _
    have hgt : ¬ (encode P sch L).length ≤ alignUp M.length P.dhAlign := by omega
    rw [if_neg hgt, vacLoop_block hP sch h L.hist _ L.cur.vals (decide (L.cur.creator < h)) (encode P sch L).length hb
      (by rw [hP.parts.dh]; omega) hw.hist (by omega)]
    -- the kept prefix is the encoding of the vacuumed row
    obtain ⟨tl, htl⟩ := encBlock_keepHist_prefix P sch h L.hist (alignUp M.length P.dhAlign) (decide (L.cur.creator < h))
    have hlenv : (encode P sch (L.vacuum h)).length = alignUp M.length P.dhAlign
        + (encBlock P sch (alignUp M.length P.dhAlign) (keepHist h (decide (L.cur.creator < h)) L.hist)).length := by
      rw [e2, List.length_append, List.length_append, add_padTo_length hP.dha_pos]
    have ht : (encode P sch L).take (encode P sch (L.vacuum h)).length = encode P sch (L.vacuum h) := by
      rw [e1, htl, ← List.append_assoc, ← e2, List.take_left]
    simp only [← hlenv, ht]

theorem keepHist_histOk (P : Params) (sch : Schema) (h : Nat) (rest : List (LVersion × List Nat)) (newer : List Cell)
    (cov : Bool) (hh : HistOk P sch newer rest) : HistOk P sch newer (keepHist h cov rest) := by
  fun_induction keepHist h cov rest generalizing newer with
  | case1 => exact hh
  | case3 => trivial
  | case2 cov v c rest hge ih | case4 cov v c rest hlt hnotCovered ih => exact ⟨hh.1, hh.2.1, ih _ hh.2.2⟩

theorem vacuum_wf (P : Params) (sch : Schema) (L : LRow) (hw : WfRow P sch L) (h : Nat) : WfRow P sch (L.vacuum h) := by
  unfold LRow.vacuum
  split
  · exact hw
  · exact ⟨hw.keys, hw.cur, hw.creator, hw.ver, hw.deleter, keepHist_histOk P sch h _ _ _ hw.hist⟩

def AtOrAbove (s : Snapshot) (h : Nat) (L : LRow) : Prop :=
  ∀ v, v ∈ L.cur :: L.hist.map (·.1) → v.creator < h → creatorVisible {} s v.creator = true

theorem firstVisible_keepHist (s : Snapshot) (h : Nat) :
    ∀ (rest : List (LVersion × List Nat)),
      (∀ v, v ∈ rest.map (·.1) → v.creator < h → creatorVisible {} s v.creator = true) →
      firstVisible {} s ((keepHist h false rest).map (·.1)) = firstVisible {} s (rest.map (·.1)) := by
  intro rest
  induction rest with
  | nil => intro _; rfl
  | cons x rest ih =>
    intro hv
    obtain ⟨v, c⟩ := x
    by_cases h1 : h ≤ v.creator
    · simp only [keepHist, if_pos h1, List.map_cons, firstVisible, ih fun w hw => hv w (List.mem_cons_of_mem _ hw)]
    · -- the newest version below the horizon is kept, and the snapshot sees it
      have hvis := hv v (List.mem_cons_self ..) (Nat.lt_of_not_le h1)
      simp only [keepHist, if_neg h1, Bool.false_eq_true, if_false, List.map_cons, firstVisible, hvis, if_true]

theorem specVisible_vacuum (s : Snapshot) (h : Nat) (L : LRow) (ha : AtOrAbove s h L) :
    specVisible {} s (L.vacuum h) = specVisible {} s L := by
  unfold LRow.vacuum
  split
  · rfl
  · simp only [specVisible, firstVisible]
    cases hc : creatorVisible {} s L.cur.creator with
    | true => rfl
    | false =>
      -- the newest version is invisible, so it is not below the horizon: nothing is covered yet
      have hge : ¬ L.cur.creator < h := fun hlt => Bool.false_ne_true (hc.symm.trans (ha L.cur (List.mem_cons_self ..) hlt))
      rw [decide_eq_false hge, firstVisible_keepHist s h L.hist fun v hv => ha v (List.mem_cons_of_mem _ hv)]

theorem add_emitVal_length {P : Params} (hP : P.Wf) (k : Kind) (c : Nat) (p : Bytes) :
    c + (emitVal P k c p).length = alignUp c (P.align k) + (encPayload k p).length :=
  add_padTo_append_length (hP.align_pos k) _

theorem sizeCells_eq {P : Params} (hP : P.Wf) (ks : List Kind) (cs : List Cell) (c : Nat) :
    sizeCells P c ks cs = c + (emitCells P c ks cs).length := by
  fun_induction sizeCells P c ks cs with
  | case1 | case2 => simp only [emitCells]; rfl
  | case3 c k ks cs ih => rw [emitCells, ih]
  | case4 c k ks p cs ih => rw [emitCells, List.length_append, ← Nat.add_assoc, add_emitVal_length hP, ih]

theorem sizeChanges_eq {P : Params} (hP : P.Wf) (kinds : List Kind) (old : List Cell) : ∀ (is : List Nat) (c : Nat),
    sizeChanges P kinds old c is = c + (emitChanges P kinds old c is).length := by
  intro is
  induction is with
  | nil => intro c; rfl
  | cons i is ih =>
    intro c
    simp only [sizeChanges, emitChanges]
    split
    · rename_i p k _ _
      simp only [List.length_cons, List.length_append]
      rw [← add_emitVal_length hP k (c + 1) p, ih]
      omega
    · simp only [List.length_cons, ih]; omega

theorem encMain_length {P : Params} (hP : P.Wf) (sch : Schema) (xmin : Nat) (xmax : Option Nat) (ver : Nat)
    (keys : List Bytes) (vals : List Cell) :
    (encMain P sch xmin xmax ver keys vals).length
      = sizeCells P (sizeCells P (P.hdrSize + bitmapSize vals.length) sch.keys (keys.map some)) sch.vals vals := by
  simp only [encMain, List.length_append, encHeader_length hP, mkBitmap_length, sizeCells_eq hP]

theorem computeInitialSize_eq {P : Params} (hP : P.Wf) (sch : Schema) (row : Row) (x : Nat)
    (hl : row.vals.length = sch.vals.length) :
    computeInitialSize P sch row = (encMain P sch x none 0 row.keys row.vals).length := by
  rw [encMain_length hP, computeInitialSize, hl]

theorem calcNewTupleSize_eq {P : Params} (hP : P.Wf) (sch : Schema) (L : LRow) (m : Mods) (t : Nat)
    (hme : m.isEmpty = false) :
    calcNewTupleSize {} P sch L.keys (applyMods m 0 L.cur.vals) L.cur.vals (changedIdx m 0 L.cur.vals)
        (encBlock P sch 0 L.hist).length
      = (encode P sch (L.update t m)).length := by
  rw [encode_update hP sch L m t hme]
  simp only [calcNewTupleSize, ← encMain_length hP sch t none ((L.cur.ver + 1) % 256), Bool.false_eq_true, if_false]
  generalize encMain P sch t none ((L.cur.ver + 1) % 256) L.keys (applyMods m 0 L.cur.vals) = M'
  have hbody : sizeChanges P sch.vals L.cur.vals
        (alignUp M'.length P.dhAlign + P.dhSize + 1 + bitmapSize (applyMods m 0 L.cur.vals).length) (changedIdx m 0 L.cur.vals)
      = (M' ++ padTo M'.length P.dhAlign
          ++ encDelta P sch L.cur.creator L.cur.ver L.cur.vals (changedIdx m 0 L.cur.vals)).length := by
    rw [sizeChanges_eq hP, applyMods_length, encDelta_eq hP sch _ _ _ _ (dvd_alignUp M'.length P.dhAlign)]
    simp only [List.length_append, encDeltaHeader_length hP, List.length_cons, List.length_nil,
      mkBitmap_length, add_padTo_length hP.dha_pos, Nat.zero_add, ← Nat.add_assoc]
  rw [hbody]
  generalize M' ++ padTo M'.length P.dhAlign
    ++ encDelta P sch L.cur.creator L.cur.ver L.cur.vals (changedIdx m 0 L.cur.vals) = body
  cases encBlock P sch 0 L.hist with
  | nil => rfl
  | cons b bs =>
    rw [List.length_cons, if_neg (Nat.add_one_ne_zero _), List.isEmpty_cons, if_neg Bool.false_ne_true,
      List.length_append (bs := b :: bs), List.length_append, add_padTo_length hP.dha_pos, List.length_cons]

def OpOk (P : Params) (sch : Schema) : LOp → Prop
  | .update t m => ModsFit P sch m ∧ t < 2 ^ 64
  | .delete t => t < 2 ^ 63
  | .vacuum _ => True

theorem applyB_encode {P : Params} (hP : P.Wf) (sch : Schema) (hn : sch.vals.length < 256) (L : LRow) (hw : WfRow P sch L) :
    ∀ op, OpOk P sch op →
      op.applyB {} P sch (encode P sch L) = .ok (encode P sch (op.applyL L)) ∧ WfRow P sch (op.applyL L)
  | .update t m, hop => ⟨addVersion_encode hP sch L hw m t hop.1, update_wf P sch L hw m t hop.1 hop.2 hn⟩
  | .delete t, hop => ⟨delete_encode hP sch L hw t, delete_wf P sch L hw t hop⟩
  | .vacuum h, _ => ⟨by rw [LOp.applyB, vacuum_encode hP sch L hw h]; rfl, vacuum_wf P sch L hw h⟩

theorem run_refines {P : Params} (hP : P.Wf) (sch : Schema) (hn : sch.vals.length < 256) :
    ∀ (ops : List LOp) (L : LRow), WfRow P sch L → (∀ op, op ∈ ops → OpOk P sch op) →
      runB {} P sch ops (encode P sch L) = .ok (encode P sch (runL ops L)) ∧ WfRow P sch (runL ops L) := by
  intro ops
  induction ops with
  | nil => intro L hw _; exact ⟨rfl, hw⟩
  | cons op ops ih =>
    intro L hw hops
    obtain ⟨h1, h2⟩ := applyB_encode hP sch hn L hw op (hops op (List.mem_cons_self ..))
    rw [runB, h1, runL]
    exact ih _ h2 fun o ho => hops o (List.mem_cons_of_mem _ ho)

end AxVerif.Tuple
