/- Helper lemmas for the C06 theorems: expressions under re-indexing, conjunctions, plan invariants. -/
import AxVerif.Model.Plan
import AxVerif.Lemmas.Sql
import AxVerif.Lemmas.Index
namespace AxVerif.Plan
open AxVerif.Sql AxVerif.Index

/- `mapCols`, `cols`, the static analyses `rtInt32` / `inferTyO` / `rtUnsigned` and the CASE evaluators are defined by
structural recursion through `List Expr`, and nothing upstream has asked for their equation lemmas: naming one of them in a
`simp` or `rw` makes Lean derive them here, which is slow to check.  So where a defining equation is needed, its instance
is stated with `show` (it holds by `rfl`), or the head of the term is unfolded in place with `conv => … whnf`.  `eval` and
`evalList` are rewritten with by name: Lemmas/Sql.lean uses their equation lemmas already. -/

def AgreeAt (f : Nat → Nat) (tys tys' : List Ty) (row row' : Row) (i : Nat) : Prop :=
  row'[f i]? = row[i]? ∧ tys'.getD (f i) .bigint = tys.getD i .bigint

theorem congrArg₂ {α β γ} (g : α → β → γ) {a a' : α} {b b' : β} (ha : a = a') (hb : b = b') : g a b = g a' b' :=
  ha ▸ hb ▸ rfl

theorem isNullLit_mapCols (f : Nat → Nat) (e : Expr) : isNullLit (mapCols f e) = isNullLit e := by
  cases e <;> rfl

theorem AgreeAt.tys {f : Nat → Nat} {tys tys' : List Ty} {row row' : Row} {cs : List Nat}
    (h : ∀ i ∈ cs, AgreeAt f tys tys' row row' i) : ∀ i ∈ cs, tys'.getD (f i) .bigint = tys.getD i .bigint :=
  fun i hi => (h i hi).2

structure Reindexed (f : Nat → Nat) (e : Expr) : Prop where
  cols : Plan.cols (mapCols f e) = (Plan.cols e).map f
  rtInt32 : ∀ {tys tys' : List Ty}, (∀ i ∈ Plan.cols e, tys'.getD (f i) .bigint = tys.getD i .bigint) →
    Sql.rtInt32 tys' (mapCols f e) = Sql.rtInt32 tys e
  inferTyO : ∀ {tys tys' : List Ty}, (∀ i ∈ Plan.cols e, tys'.getD (f i) .bigint = tys.getD i .bigint) →
    Sql.inferTyO tys' (mapCols f e) = Sql.inferTyO tys e
  rtUnsigned : ∀ {tys tys' : List Ty}, (∀ i ∈ Plan.cols e, tys'.getD (f i) .bigint = tys.getD i .bigint) →
    Sql.rtUnsigned tys' (mapCols f e) = Sql.rtUnsigned tys e
  eval : ∀ {tys tys' : List Ty} {row row' : Row}, (∀ i ∈ Plan.cols e, AgreeAt f tys tys' row row' i) →
    Sql.eval {} tys' row' (mapCols f e) = Sql.eval {} tys row e

theorem cols_append_mapCols {f : Nat → Nat} {a b : Expr} (ia : Reindexed f a) (ib : Reindexed f b) :
    cols (mapCols f a) ++ cols (mapCols f b) = (cols a ++ cols b).map f := by
  rw [List.map_append, ia.cols, ib.cols]

mutual
/-- The five facts in one induction, so that the constructors of `Expr` are gone through once; the list functions of
    CASE, IN and COALESCE are its list halves. -/
theorem reindex (f : Nat → Nat) (e : Expr) : Reindexed f e := by
  match e with
  | .lit v => exact ⟨rfl, fun _ => by cases v <;> rfl, fun _ => by cases v <;> rfl, fun _ => rfl, fun _ => rfl⟩
  | .col i =>
    refine ⟨rfl, fun h => congrArg (· == Ty.int) (h i (List.mem_singleton_self i)),
      fun h => congrArg some (h i (List.mem_singleton_self i)),
      fun h => congrArg Ty.isUnsigned (h i (List.mem_singleton_self i)), fun h => ?_⟩
    show eval {} _ _ (.col (f i)) = _
    simp only [eval, (h i (List.mem_singleton_self i)).1]
  | .pos a =>
    have ia := reindex f a
    exact ⟨ia.cols, ia.rtInt32, ia.inferTyO, ia.rtUnsigned, ia.eval⟩
  | .neg a =>
    have ia := reindex f a
    refine ⟨ia.cols, fun h => ?_, ia.inferTyO, fun _ => rfl, fun h => ?_⟩
    · have ih := ia.rtInt32 h
      cases a with
      | lit v => cases v <;> rfl
      | _ => exact ih
    · show eval {} _ _ (.neg (mapCols f a)) = _
      simp only [eval, ia.eval h, ia.rtInt32 (AgreeAt.tys h), ia.rtUnsigned (AgreeAt.tys h)]
  | .not a | .isNull _ a =>
    have ia := reindex f a
    refine ⟨ia.cols, fun _ => rfl, fun _ => rfl, fun _ => rfl, fun h => ?_⟩
    conv => lhs; arg 4; whnf
    simp only [eval, ia.eval h]
  | .strFn g a =>
    have ia := reindex f a
    refine ⟨ia.cols, fun _ => rfl, fun _ => by cases g <;> rfl, fun _ => rfl, fun h => ?_⟩
    show eval {} _ _ (.strFn g (mapCols f a)) = _
    simp only [eval, ia.eval h]
  | .and a b | .or a b | .cmp _ a b | .like _ a b | .concat a b =>
    have ia := reindex f a
    have ib := reindex f b
    refine ⟨cols_append_mapCols ia ib, fun _ => rfl, fun _ => rfl, fun _ => rfl, fun h => ?_⟩
    have ⟨ha, hb⟩ := List.forall_mem_append.1 h
    conv => lhs; arg 4; whnf
    simp only [eval, ia.eval ha, ib.eval hb]
  | .arith op a b =>
    have ia := reindex f a
    have ib := reindex f b
    refine ⟨cols_append_mapCols ia ib, fun _ => rfl, fun h => ?_, fun h => ?_, fun h => ?_⟩
    · have ⟨ha, hb⟩ := List.forall_mem_append.1 h
      conv => lhs; whnf
      rw [ia.inferTyO ha, ib.inferTyO hb]
      rfl
    · have ⟨ha, hb⟩ := List.forall_mem_append.1 h
      exact congrArg₂ (· && ·) (ia.rtUnsigned ha) (ib.rtUnsigned hb)
    · have ⟨ha, hb⟩ := List.forall_mem_append.1 h
      show eval {} _ _ (.arith op (mapCols f a) (mapCols f b)) = _
      simp only [eval, ia.eval ha, ib.eval hb, ia.rtUnsigned (AgreeAt.tys ha), ib.rtUnsigned (AgreeAt.tys hb)]
  | .nullif a b =>
    have ia := reindex f a
    have ib := reindex f b
    refine ⟨cols_append_mapCols ia ib, fun _ => rfl, fun h => ia.inferTyO (List.forall_mem_append.1 h).1,
      fun h => congrArg (fun t => (t.getD .bool).isUnsigned) (ia.inferTyO (List.forall_mem_append.1 h).1), fun h => ?_⟩
    have ⟨ha, hb⟩ := List.forall_mem_append.1 h
    show eval {} _ _ (.nullif (mapCols f a) (mapCols f b)) = _
    simp only [eval, ia.eval ha, ib.eval hb, inferTy, ia.inferTyO (AgreeAt.tys ha)]
  | .between n a lo hi =>
    have ia := reindex f a
    have il := reindex f lo
    have ih := reindex f hi
    refine ⟨?_, fun _ => rfl, fun _ => rfl, fun _ => rfl, fun h => ?_⟩
    · show _ ++ (_ ++ _) = List.map f (_ ++ (_ ++ _))
      rw [List.map_append, List.map_append, ia.cols, il.cols, ih.cols]
    · have ⟨ha, hlh⟩ := List.forall_mem_append.1 h
      have ⟨hl, hh⟩ := List.forall_mem_append.1 hlh
      show eval {} _ _ (.between n (mapCols f a) (mapCols f lo) (mapCols f hi)) = _
      simp only [eval, ia.eval ha, il.eval hl, ih.eval hh]
  | .inList n a xs =>
    have ia := reindex f a
    refine ⟨?_, fun _ => rfl, fun _ => rfl, fun _ => rfl, fun h => ?_⟩
    · show _ ++ _ = List.map f (_ ++ _)
      rw [List.map_append, ia.cols, colsList_mapCols f xs]
    · have ⟨ha, hx⟩ := List.forall_mem_append.1 h
      show eval {} _ _ (.inList n (mapCols f a) (mapColsList f xs)) = _
      simp only [eval, ia.eval ha, evalList_mapCols f _ _ _ _ xs hx]
  | .caseWhen parts =>
    exact ⟨colsList_mapCols f parts, fun h => rtInt32Results_mapCols f _ _ parts h,
      fun h => inferResults_mapCols f _ _ parts h, fun h => rtUnsignedResults_mapCols f _ _ parts h,
      fun h => evalCaseWhen_mapCols f _ _ _ _ parts h⟩
  | .caseOf x parts =>
    have ix := reindex f x
    refine ⟨?_, fun h => rtInt32Results_mapCols f _ _ parts (List.forall_mem_append.1 h).2,
      fun h => inferResults_mapCols f _ _ parts (List.forall_mem_append.1 h).2,
      fun h => rtUnsignedResults_mapCols f _ _ parts (List.forall_mem_append.1 h).2, fun h => ?_⟩
    · show _ ++ _ = List.map f (_ ++ _)
      rw [List.map_append, ix.cols, colsList_mapCols f parts]
    · have ⟨hx, hp⟩ := List.forall_mem_append.1 h
      show eval {} _ _ (.caseOf (mapCols f x) (mapColsList f parts)) = _
      simp only [eval, ix.eval hx, fun v => evalCaseOf_mapCols f _ _ _ _ v parts hp]
  | .coalesce xs =>
    refine ⟨colsList_mapCols f xs, fun _ => rfl, fun h => inferFirst_mapCols f _ _ xs h,
      fun h => congrArg (fun t => (t.getD .bool).isUnsigned) (inferFirst_mapCols f _ _ xs h), fun h => ?_⟩
    show eval {} _ _ (.coalesce (mapColsList f xs)) = _
    simp only [eval, evalList_mapCols f _ _ _ _ xs h, inferFirst_mapCols f _ _ xs (AgreeAt.tys h)]
theorem colsList_mapCols (f : Nat → Nat) (es : List Expr) : colsList (mapColsList f es) = (colsList es).map f := by
  match es with
  | [] => rfl
  | e :: es =>
    show _ ++ _ = List.map f (_ ++ _)
    rw [List.map_append, (reindex f e).cols, colsList_mapCols f es]
theorem rtInt32Results_mapCols (f : Nat → Nat) (tys tys' : List Ty) (es : List Expr)
    (h : ∀ i ∈ colsList es, tys'.getD (f i) .bigint = tys.getD i .bigint) :
    rtInt32Results tys' (mapColsList f es) = rtInt32Results tys es := by
  match es with
  | [] => rfl
  | [e] =>
    exact congrArg₂ (· || ·) ((reindex f e).rtInt32 (List.forall_mem_append.1 h).1) (isNullLit_mapCols f e)
  | c :: r :: rest =>
    have ⟨hr, hs⟩ := List.forall_mem_append.1 (List.forall_mem_append.1 h).2
    exact congrArg₂ (· && ·) (congrArg₂ (· || ·) ((reindex f r).rtInt32 hr) (isNullLit_mapCols f r))
      (rtInt32Results_mapCols f tys tys' rest hs)
theorem inferResults_mapCols (f : Nat → Nat) (tys tys' : List Ty) (es : List Expr)
    (h : ∀ i ∈ colsList es, tys'.getD (f i) .bigint = tys.getD i .bigint) :
    inferResults tys' (mapColsList f es) = inferResults tys es := by
  match es with
  | [] => rfl
  | [e] => exact (reindex f e).inferTyO (List.forall_mem_append.1 h).1
  | c :: r :: rest =>
    have ⟨hr, hs⟩ := List.forall_mem_append.1 (List.forall_mem_append.1 h).2
    exact congrArg₂ joinTy ((reindex f r).inferTyO hr) (inferResults_mapCols f tys tys' rest hs)
theorem inferFirst_mapCols (f : Nat → Nat) (tys tys' : List Ty) (es : List Expr)
    (h : ∀ i ∈ colsList es, tys'.getD (f i) .bigint = tys.getD i .bigint) :
    inferFirst tys' (mapColsList f es) = inferFirst tys es := by
  match es with
  | [] => rfl
  | e :: es =>
    have ⟨he, hs⟩ := List.forall_mem_append.1 h
    conv => lhs; whnf
    rw [(reindex f e).inferTyO he, inferFirst_mapCols f tys tys' es hs]
    rfl
theorem rtUnsignedResults_mapCols (f : Nat → Nat) (tys tys' : List Ty) (es : List Expr)
    (h : ∀ i ∈ colsList es, tys'.getD (f i) .bigint = tys.getD i .bigint) :
    rtUnsignedResults tys' (mapColsList f es) = rtUnsignedResults tys es := by
  match es with
  | [] => rfl
  | [e] =>
    exact congrArg₂ (· || ·) ((reindex f e).rtUnsigned (List.forall_mem_append.1 h).1) (isNullLit_mapCols f e)
  | c :: r :: rest =>
    have ⟨hr, hs⟩ := List.forall_mem_append.1 (List.forall_mem_append.1 h).2
    exact congrArg₂ (· && ·) (congrArg₂ (· || ·) ((reindex f r).rtUnsigned hr) (isNullLit_mapCols f r))
      (rtUnsignedResults_mapCols f tys tys' rest hs)
theorem evalCaseWhen_mapCols (f : Nat → Nat) (tys tys' : List Ty) (row row' : Row) (es : List Expr)
    (h : ∀ i ∈ colsList es, AgreeAt f tys tys' row row' i) :
    evalCaseWhen {} tys' row' (mapColsList f es) = evalCaseWhen {} tys row es := by
  match es with
  | [] => rfl
  | [e] => exact (reindex f e).eval (List.forall_mem_append.1 h).1
  | c :: r :: rest =>
    have ⟨hc, hrs⟩ := List.forall_mem_append.1 h
    have ⟨hr, hs⟩ := List.forall_mem_append.1 hrs
    conv => lhs; whnf
    rw [(reindex f c).eval hc, (reindex f r).eval hr,
      evalCaseWhen_mapCols f tys tys' row row' rest hs]
    rfl
theorem evalCaseOf_mapCols (f : Nat → Nat) (tys tys' : List Ty) (row row' : Row) (v : Value) (es : List Expr)
    (h : ∀ i ∈ colsList es, AgreeAt f tys tys' row row' i) :
    evalCaseOf {} tys' row' v (mapColsList f es) = evalCaseOf {} tys row v es := by
  match es with
  | [] => rfl
  | [e] => exact (reindex f e).eval (List.forall_mem_append.1 h).1
  | c :: r :: rest =>
    have ⟨hc, hrs⟩ := List.forall_mem_append.1 h
    have ⟨hr, hs⟩ := List.forall_mem_append.1 hrs
    conv => lhs; whnf
    rw [(reindex f c).eval hc, (reindex f r).eval hr,
      evalCaseOf_mapCols f tys tys' row row' v rest hs]
    rfl
theorem evalList_mapCols (f : Nat → Nat) (tys tys' : List Ty) (row row' : Row) (es : List Expr)
    (h : ∀ i ∈ colsList es, AgreeAt f tys tys' row row' i) :
    evalList {} tys' row' (mapColsList f es) = evalList {} tys row es := by
  match es with
  | [] => rfl
  | e :: es =>
    have ⟨he, hs⟩ := List.forall_mem_append.1 h
    show evalList {} tys' row' (mapCols f e :: mapColsList f es) = _
    simp only [evalList, (reindex f e).eval he, evalList_mapCols f tys tys' row row' es hs]
end

theorem cols_mapCols (f : Nat → Nat) (e : Expr) : cols (mapCols f e) = (cols e).map f :=
  (reindex f e).cols

theorem eval_mapCols (f : Nat → Nat) (tys tys' : List Ty) (row row' : Row) (e : Expr)
    (h : ∀ i ∈ cols e, AgreeAt f tys tys' row row' i) : eval {} tys' row' (mapCols f e) = eval {} tys row e :=
  (reindex f e).eval h

theorem holds_mapCols (f : Nat → Nat) (tys tys' : List Ty) (row row' : Row) (e : Expr)
    (h : ∀ i ∈ cols e, AgreeAt f tys tys' row row' i) :
    holds tys' (mapCols f e) row' = holds tys e row := by
  simp only [holds, evalPred, eval_mapCols f tys tys' row row' e h]

mutual
theorem mapCols_id (e : Expr) : mapCols (fun i => i) e = e := by
  match e with
  | .lit _ | .col _ => rfl
  | .not a | .neg a | .pos a | .isNull _ a | .strFn _ a =>
    conv => lhs; whnf
    rw [mapCols_id a]
  | .and a b | .or a b | .cmp _ a b | .arith _ a b | .like _ a b | .concat a b | .nullif a b =>
    conv => lhs; whnf
    rw [mapCols_id a, mapCols_id b]
  | .between _ a b c =>
    conv => lhs; whnf
    rw [mapCols_id a, mapCols_id b, mapCols_id c]
  | .coalesce xs | .caseWhen xs =>
    conv => lhs; whnf
    rw [mapColsList_id xs]
  | .inList _ a xs | .caseOf a xs =>
    conv => lhs; whnf
    rw [mapCols_id a, mapColsList_id xs]
theorem mapColsList_id (es : List Expr) : mapColsList (fun i => i) es = es := by
  match es with
  | [] => rfl
  | e :: es => exact congrArg₂ List.cons (mapCols_id e) (mapColsList_id es)
end

theorem holds_ext (tys tys' : List Ty) (row row' : Row) (e : Expr)
    (h : ∀ i ∈ cols e, row'[i]? = row[i]? ∧ tys'.getD i .bigint = tys.getD i .bigint) :
    holds tys' e row' = holds tys e row := by
  have := holds_mapCols (fun i => i) tys tys' row row' e h
  rwa [mapCols_id] at this

theorem holds_iff (tys : List Ty) (e : Expr) (r : Row) : holds tys e r = true ↔ eval {} tys r e = .ok (.bool true) := by
  simp only [holds, evalPred]
  cases eval {} tys r e with
  | error x => simp
  | ok v =>
    cases v with
    | bool b => cases b <;> simp
    | _ => simp

theorem asTV_true (v : Value) : asTV v = .ok (some true) ↔ v = .bool true := by
  cases v <;> simp [asTV]

theorem and3_true (s t : TV) : (and3 s t).toValue = .bool true ↔ s = some true ∧ t = some true := by
  rcases s with _ | _ | _ <;> rcases t with _ | _ | _ <;> decide

theorem holds_and (tys : List Ty) (p q : Expr) (r : Row) :
    holds tys (.and p q) r = (holds tys p r && holds tys q r) := by
  rw [Bool.eq_iff_iff, Bool.and_eq_true, holds_iff, holds_iff, holds_iff]
  simp only [eval]
  cases eval {} tys r p with
  | error x => simp
  | ok vp =>
    cases eval {} tys r q with
    | error x => simp
    | ok vq =>
      simp only [Except.ok.injEq, ← asTV_true]
      cases asTV vp <;> cases asTV vq <;> simp [and3_true]

theorem conjuncts_all {g : Expr → Bool} (hg : ∀ a b, g (.and a b) = (g a && g b)) (e : Expr) :
    g e = (conjuncts e).all g := by
  fun_induction conjuncts e with
  | case1 a b iha ihb => rw [hg, iha, ihb, List.all_append]
  | case2 e _ => simp only [List.all_cons, List.all_nil, Bool.and_true]

theorem foldl_and_all {g : Expr → Bool} (hg : ∀ a b, g (.and a b) = (g a && g b)) (ps : List Expr) (acc : Expr) :
    g (ps.foldl (fun a q => Expr.and a q) acc) = (g acc && ps.all g) := by
  induction ps generalizing acc with
  | nil => simp
  | cons p ps ih => simp [List.foldl, ih, hg, Bool.and_assoc]

theorem holds_conjuncts (tys : List Ty) (r : Row) (e : Expr) : holds tys e r = (conjuncts e).all (holds tys · r) :=
  conjuncts_all (g := (holds tys · r)) (fun a b => holds_and tys a b r) e

theorem holds_foldl_and (tys : List Ty) (r : Row) (ps : List Expr) (acc : Expr) :
    holds tys (ps.foldl (fun a q => Expr.and a q) acc) r = (holds tys acc r && ps.all (holds tys · r)) :=
  foldl_and_all (g := (holds tys · r)) (fun a b => holds_and tys a b r) ps acc

theorem holdsOpt_combine (tys : List Ty) (r : Row) (ps : List Expr) :
    holdsOpt tys (combine ps) r = ps.all (holds tys · r) := by
  cases ps with
  | nil => simp [combine, holdsOpt]
  | cons p ps => simp [combine, holdsOpt, holds_foldl_and]

theorem holdsOpt_toList (tys : List Ty) (r : Row) (on : Option Expr) :
    holdsOpt tys on r = on.toList.all (holds tys · r) := by
  cases on <;> simp [holdsOpt]

theorem all_filter_split {α} (l : List α) (q f : α → Bool) :
    l.all f = ((l.filter q).all f && (l.filter (fun x => !q x)).all f) := by
  induction l with
  | nil => rfl
  | cons x xs ih =>
    rw [List.all_cons, ih, List.filter_cons, List.filter_cons]
    cases q x
    · simp only [Bool.not_false, if_true, Bool.false_eq_true, if_false, List.all_cons]
      exact Bool.and_left_comm ..
    · simp only [Bool.not_true, if_true, Bool.false_eq_true, if_false, List.all_cons]
      exact (Bool.and_assoc ..).symm

/-- the conjunct reads the left input only / the right input only (with respect to the width `lw` of the left input) -/
def leftOnly (lw : Nat) (e : Expr) : Bool := anyCol (· < lw) e && !anyCol (fun i => lw ≤ i) e
def rightOnly (lw : Nat) (e : Expr) : Bool := anyCol (fun i => lw ≤ i) e && !anyCol (· < lw) e

/-- `classify` as three filters of the conjuncts -/
theorem classify_eq (lw : Nat) (p : Expr) :
    classify lw p = ((conjuncts p).filter (leftOnly lw),
      (conjuncts p).filter (fun e => !leftOnly lw e && rightOnly lw e),
      (conjuncts p).filter (fun e => !leftOnly lw e && !rightOnly lw e)) := by
  unfold classify
  induction conjuncts p with
  | nil => rfl
  | cons e es ih =>
    rw [List.foldr_cons, ih]
    cases h1 : anyCol (· < lw) e <;> cases h2 : anyCol (fun i => lw ≤ i) e <;>
      simp [leftOnly, rightOnly, h1, h2]

theorem classify_all (lw : Nat) (p : Expr) (f : Expr → Bool) :
    (conjuncts p).all f = ((classify lw p).1.all f && ((classify lw p).2.1.all f && (classify lw p).2.2.all f)) := by
  rw [classify_eq, all_filter_split _ (leftOnly lw)]
  congr 1
  rw [all_filter_split _ (rightOnly lw), List.filter_filter, List.filter_filter]
  simp only [Bool.and_comm]

theorem classify_left (lw : Nat) (p : Expr) : ∀ e ∈ (classify lw p).1, ∀ i ∈ cols e, i < lw := by
  rw [classify_eq]
  intro e he i hi
  have := List.any_eq_false.1 ((Bool.not_eq_true' _).mp (Bool.and_eq_true_iff.1 (List.mem_filter.1 he).2).2) i hi
  exact Nat.lt_of_not_le fun hle => this (decide_eq_true hle)

theorem classify_right (lw : Nat) (p : Expr) : ∀ e ∈ (classify lw p).2.1, ∀ i ∈ cols e, lw ≤ i := by
  rw [classify_eq]
  intro e he i hi
  have h := (Bool.and_eq_true_iff.1 (Bool.and_eq_true_iff.1 (List.mem_filter.1 he).2).2).2
  have := List.any_eq_false.1 ((Bool.not_eq_true' _).mp h) i hi
  exact Nat.le_of_not_lt fun hlt => this (decide_eq_true hlt)

theorem getElem?_append_at {α} {x y : List α} {n : Nat} (hx : x.length = n) (i : Nat) :
    (x ++ y)[i]? = if i < n then x[i]? else y[i - n]? := by
  rw [List.getElem?_append, hx]

theorem getElem?_append_swap {α} {x y : List α} {n m : Nat} (hx : x.length = n) (hy : y.length = m) {i : Nat}
    (hi : i < n + m) : (y ++ x)[if i < n then i + m else i - n]? = (x ++ y)[i]? := by
  rw [getElem?_append_at hx]
  split
  · rw [getElem?_append_at hy, if_neg (by omega), Nat.add_sub_cancel]
  · rw [getElem?_append_at hy, if_pos (by omega)]

theorem getD_of_getElem?_eq {α} {x y : List α} {i j : Nat} (d : α) (h : x[i]? = y[j]?) : x.getD i d = y.getD j d := by
  rw [List.getD_eq_getElem?_getD, List.getD_eq_getElem?_getD, h]

theorem getD_append_at {α} {x y : List α} {n : Nat} (hx : x.length = n) (d : α) (i : Nat) :
    (x ++ y).getD i d = if i < n then x.getD i d else y.getD (i - n) d := by
  simp only [List.getD_eq_getElem?_getD, getElem?_append_at hx]
  split <;> rfl

theorem castTo_ok {ty : Ty} {v w : Value} (h : castTo ty v = .ok w) : w = v := by
  revert h
  fun_cases castTo ty v <;> intro h <;> first | exact (Except.ok.inj h).symm | cases h

theorem conformsV_iff (ty : Ty) (v : Value) : conformsV ty v = true ↔ castTo ty v = .ok v := by
  unfold conformsV
  cases h : castTo ty v with
  | error x => simp
  | ok w => simp [castTo_ok h]

theorem conformsV_of_castTo (ty : Ty) (v w : Value) (h : castTo ty v = .ok w) : conformsV ty w = true := by
  cases castTo_ok h
  exact (conformsV_iff ty _).2 h

theorem conformsV_null (ty : Ty) : conformsV ty .null = true := rfl

theorem conformsRow_length {tys : List Ty} {r : Row} (h : conformsRow tys r = true) : r.length = tys.length := by
  simp only [conformsRow, Bool.and_eq_true, beq_iff_eq] at h
  exact h.1

theorem conformsRow_at {tys : List Ty} {r : Row} (h : conformsRow tys r = true) (i : Nat) (hi : i < r.length) :
    conformsV (tys.getD i .bigint) (r.getD i .null) = true := by
  simp only [conformsRow, Bool.and_eq_true, List.all_eq_true, List.mem_range] at h
  exact h.2 i hi

theorem conformsRow_intro {tys : List Ty} {r : Row} (hl : r.length = tys.length)
    (h : ∀ i, i < r.length → conformsV (tys.getD i .bigint) (r.getD i .null) = true) : conformsRow tys r = true := by
  simp only [conformsRow, Bool.and_eq_true, beq_iff_eq, List.all_eq_true, List.mem_range]
  exact ⟨hl, h⟩

theorem conformsRow_nulls (tys : List Ty) : conformsRow tys (nulls tys.length) = true := by
  apply conformsRow_intro
  · simp [nulls]
  · intro i hi
    have : (nulls tys.length).getD i .null = .null := by
      simp [nulls, List.getD_eq_getElem?_getD, List.getElem?_replicate]
      split <;> rfl
    rw [this]; exact conformsV_null _

theorem conformsRow_append {t1 t2 : List Ty} {a b : Row} (ha : conformsRow t1 a = true) (hb : conformsRow t2 b = true) :
    conformsRow (t1 ++ t2) (a ++ b) = true := by
  have hla := conformsRow_length ha
  have hlb := conformsRow_length hb
  apply conformsRow_intro
  · rw [List.length_append, List.length_append, hla, hlb]
  · intro i hi
    rw [getD_append_at rfl, getD_append_at hla]
    rw [List.length_append] at hi
    split
    · exact conformsRow_at ha i (by omega)
    · rw [← hla]
      exact conformsRow_at hb _ (by omega)

theorem mem_joinLeftPart (m : Row → Row → Bool) (pad : Bool) (rw : Nat) (l r : List Row) (x : Row)
    (h : x ∈ joinLeftPart m pad rw l r) :
    (∃ a ∈ l, ∃ b ∈ r, x = a ++ b) ∨ (∃ a ∈ l, x = a ++ nulls rw) := by
  simp only [joinLeftPart, List.mem_flatMap] at h
  obtain ⟨a, ha, hx⟩ := h
  split at hx
  · simp only [List.mem_singleton] at hx
    exact Or.inr ⟨a, ha, hx⟩
  · rw [mem_matchesOf] at hx
    obtain ⟨b, hb, _, rfl⟩ := hx
    exact Or.inl ⟨a, ha, b, hb, rfl⟩

theorem mem_unmatchedRight (m : Row → Row → Bool) (lw : Nat) (l r : List Row) (x : Row)
    (h : x ∈ unmatchedRight m lw l r) : ∃ b ∈ r, x = nulls lw ++ b := by
  simp only [unmatchedRight, List.mem_map, List.mem_filter] at h
  obtain ⟨b, ⟨hb, _⟩, rfl⟩ := h
  exact ⟨b, hb, rfl⟩

theorem mem_joinPure (k : JoinKind) (m : Row → Row → Bool) (lw rw : Nat) (l r : List Row) (x : Row)
    (h : x ∈ joinPure k m lw rw l r) :
    (∃ a ∈ l, ∃ b ∈ r, x = a ++ b) ∨ (∃ a ∈ l, x = a ++ nulls rw) ∨ (∃ b ∈ r, x = nulls lw ++ b) := by
  cases k <;> simp only [joinPure, List.mem_append] at h
  · exact (mem_joinLeftPart _ _ _ _ _ _ h).imp_right Or.inl
  · exact (mem_joinLeftPart _ _ _ _ _ _ h).imp_right Or.inl
  · exact h.elim (fun h => (mem_joinLeftPart _ _ _ _ _ _ h).imp_right Or.inl)
      (fun h => .inr (.inr (mem_unmatchedRight _ _ _ _ _ h)))
  · exact h.elim (fun h => (mem_joinLeftPart _ _ _ _ _ _ h).imp_right Or.inl)
      (fun h => .inr (.inr (mem_unmatchedRight _ _ _ _ _ h)))
  · exact (mem_joinLeftPart _ _ _ _ _ _ h).imp_right Or.inl

theorem projectRow_conforms (tys : List Ty) (items : List Expr) (r r' : Row)
    (h : projectRow {} tys items r = .ok r') : conformsRow (items.map (inferTy tys)) r' = true := by
  obtain ⟨hl, hi⟩ := mapE_ok _ _ _ h
  apply conformsRow_intro
  · rw [hl, List.length_map]
  · intro i hlt
    have hi' := hi i (hl ▸ hlt) hlt
    rw [List.getD_eq_getElem?_getD, List.getD_eq_getElem?_getD, List.getElem?_map,
      List.getElem?_eq_getElem (hl ▸ hlt), List.getElem?_eq_getElem hlt]
    cases he : eval {} tys r items[i] with
    | error e => rw [he] at hi'; cases hi'
    | ok v => rw [he] at hi'; exact conformsV_of_castTo _ _ _ hi'

theorem scan_subset (ix : Index) (rows : Rows) (lo hi : List Bound) (x : Row) (h : x ∈ Index.scan ix rows lo hi) :
    ∃ rid, (rid, x) ∈ rows := by
  simp only [Index.scan, List.mem_filterMap] at h
  obtain ⟨e, _, he⟩ := h
  exact ⟨e.rid, fetch_some_mem _ _ _ he⟩

theorem getD_default_or_mem {α} [Inhabited α] (l : List α) (t : Nat) : l.getD t default = default ∨ l.getD t default ∈ l := by
  rw [List.getD_eq_getElem?_getD]
  cases h : l[t]? with
  | none => exact Or.inl rfl
  | some x => exact Or.inr (List.mem_of_getElem? h)

theorem wfStore_table {st : Store} (h : wfStore st = true) (t : Nat) : wfTable (st.getD t default) = true := by
  rcases getD_default_or_mem st t with h' | h'
  · rw [h']; rfl
  · exact List.all_eq_true.1 h _ h'

theorem wfTable_row {tb : STable} (h : wfTable tb = true) {x : Nat × Row} (hx : x ∈ tb.rows) :
    conformsRow tb.tys x.2 = true := by
  simp only [wfTable, List.all_eq_true, Bool.and_eq_true] at h
  exact (h x hx).1

theorem evalPlan_conforms (st : Store) (hst : wfStore st = true) :
    ∀ (p : Plan) (x : Row), x ∈ evalPlan st p → conformsRow (p.tys st) x = true
  | .scan t, x, hx => by
    simp only [evalPlan, List.mem_map] at hx
    obtain ⟨y, hy, rfl⟩ := hx
    exact wfTable_row (wfStore_table hst t) hy
  | .indexScan t k lo hi resid, x, hx => by
    simp only [evalPlan, indexScanRows] at hx
    split at hx
    · simp at hx
    · simp only [List.mem_filter] at hx
      obtain ⟨rid, hr⟩ := scan_subset _ _ _ _ _ hx.1
      exact wfTable_row (wfStore_table hst t) hr
  | .filter p c, x, hx => by
    simp only [evalPlan, List.mem_filter] at hx
    exact evalPlan_conforms st hst c x hx.1
  | .project items c, x, hx => by
    simp only [evalPlan, List.mem_filterMap] at hx
    obtain ⟨r, _, hr⟩ := hx
    split at hr
    · rename_i r' hp
      simp only [Option.some.injEq] at hr
      subst hr
      exact projectRow_conforms _ _ _ _ hp
    · simp at hr
  | .join k on l r, x, hx => by
    simp only [evalPlan] at hx
    have hl := evalPlan_conforms st hst l
    have hr := evalPlan_conforms st hst r
    simp only [Plan.tys]
    rcases mem_joinPure _ _ _ _ _ _ _ hx with ⟨a, ha, b, hb, rfl⟩ | ⟨a, ha, rfl⟩ | ⟨b, hb, rfl⟩
    · exact conformsRow_append (hl a ha) (hr b hb)
    · exact conformsRow_append (hl a ha) (by simpa [Plan.width] using conformsRow_nulls (r.tys st))
    · exact conformsRow_append (by simpa [Plan.width] using conformsRow_nulls (l.tys st)) (hr b hb)

theorem filterMerge_eval (st : Store) (p q : Expr) (c : Plan) :
    evalPlan st (.filter (.and p q) c) = evalPlan st (.filter p (.filter q c)) := by
  simp only [evalPlan, Plan.tys, List.filter_filter]
  congr 1
  funext r
  exact holds_and _ _ _ _

theorem getElem?_append_left' {α} (a b : List α) (i : Nat) (h : i < a.length) : (a ++ b)[i]? = a[i]? :=
  List.getElem?_append_left h

theorem agreeAt_of_getElem? {f : Nat → Nat} {tys tys' : List Ty} {row row' : Row} {i : Nat}
    (hr : row'[f i]? = row[i]?) (ht : tys'[f i]? = tys[i]?) : AgreeAt f tys tys' row row' i :=
  ⟨hr, getD_of_getElem?_eq _ ht⟩

theorem holds_left (ltys rtys : List Ty) (a b : Row) (e : Expr) (ha : a.length = ltys.length)
    (hc : ∀ i ∈ cols e, i < ltys.length) : holds (ltys ++ rtys) e (a ++ b) = holds ltys e a :=
  holds_ext _ _ _ _ e fun i hi =>
    agreeAt_of_getElem? (f := id) (List.getElem?_append_left (ha ▸ hc i hi)) (List.getElem?_append_left (hc i hi))

theorem holds_right (ltys rtys : List Ty) (a b : Row) (e : Expr) (ha : a.length = ltys.length)
    (hc : ∀ i ∈ cols e, ltys.length ≤ i) :
    holds rtys (mapCols (· - ltys.length) e) b = holds (ltys ++ rtys) e (a ++ b) :=
  holds_mapCols _ _ _ _ _ e fun i hi =>
    agreeAt_of_getElem? ((ha ▸ List.getElem?_append_right (ha ▸ hc i hi)).symm) (List.getElem?_append_right (hc i hi)).symm

theorem filterOver_tys (st : Store) (p : Option Expr) (c : Plan) : (filterOver p c).tys st = c.tys st := by
  cases p <;> simp [filterOver, Plan.tys]

theorem all_congr_mem {α} (l : List α) (p q : α → Bool) (h : ∀ x ∈ l, p x = q x) : l.all p = l.all q := by
  induction l with
  | nil => rfl
  | cons x xs ih =>
    simp only [List.all_cons, h x (by simp), ih (fun y hy => h y (by simp [hy]))]

theorem filterOver_eval (st : Store) (ps : List Expr) (c : Plan) :
    evalPlan st (filterOver (combine ps) c) = (evalPlan st c).filter (fun r => ps.all (holds (c.tys st) · r)) := by
  cases ps with
  | nil =>
    simp only [combine, filterOver, List.all_nil]
    exact (List.filter_eq_self.mpr (fun _ _ => rfl)).symm
  | cons p ps =>
    simp only [combine, filterOver, evalPlan]
    congr 1
    funext r
    simp [holds_foldl_and]

theorem filter_flatMap_if {α β} (l : List α) (p : α → Bool) (h : α → List β) :
    (l.filter p).flatMap h = l.flatMap (fun x => if p x then h x else []) := by
  induction l with
  | nil => rfl
  | cons x xs ih =>
    simp only [List.filter_cons, List.flatMap_cons]
    cases p x <;> simp [ih]

/-- the algebra behind FilterPushdownJoin: filtering the pairs of a join = joining the filtered inputs on a stronger
    condition (per left row `a`: the filtered matches are the new matches if `PL a`, and none otherwise) -/
theorem flatMap_filter_pairs (L R : List Row) (m m' : Row → Row → Bool) (PL PR P : Row → Bool)
    (h : ∀ a ∈ L, ∀ b ∈ R, (m a b && P (a ++ b)) = (PL a && (PR b && m' a b))) :
    (L.flatMap (fun a => (R.filter (m a)).map (a ++ ·))).filter P
      = (L.filter PL).flatMap (fun a => ((R.filter PR).filter (m' a)).map (a ++ ·)) := by
  rw [List.filter_flatMap, filter_flatMap_if]
  refine flatMap_congr_mem _ _ _ fun a ha => ?_
  rw [List.filter_map, List.filter_filter, List.filter_filter]
  have hf : R.filter (fun b => (P ∘ fun x => a ++ x) b && m a b) = R.filter (fun b => PL a && (m' a b && PR b)) :=
    List.filter_congr fun b hb => by
      rw [Function.comp, Bool.and_comm, h a ha b hb, Bool.and_comm (PR b)]
  rw [hf]
  cases PL a <;> simp

theorem joinPure_inner_cross {k : JoinKind} (hk : k = .inner ∨ k = .cross) (m : Row → Row → Bool) (lw rw : Nat)
    (l r : List Row) : joinPure k m lw rw l r = l.flatMap (fun a => (r.filter (m a)).map (a ++ ·)) := by
  rcases hk with rfl | rfl <;> simp [joinPure, joinLeftPart, matchesOf]

theorem evalPlan_length (st : Store) (hst : wfStore st = true) (p : Plan) (x : Row) (hx : x ∈ evalPlan st p) :
    x.length = (p.tys st).length :=
  conformsRow_length (evalPlan_conforms st hst p x hx)

theorem all_holds_left (ltys rtys : List Ty) (x y : Row) (es : List Expr) (hx : x.length = ltys.length)
    (hc : ∀ e ∈ es, ∀ i ∈ cols e, i < ltys.length) :
    es.all (holds (ltys ++ rtys) · (x ++ y)) = es.all (holds ltys · x) :=
  all_congr_mem _ _ _ fun e he => holds_left _ _ _ _ _ hx (hc e he)

theorem all_holds_shift (ltys rtys : List Ty) (x y : Row) (es : List Expr) (hx : x.length = ltys.length)
    (hc : ∀ e ∈ es, ∀ i ∈ cols e, ltys.length ≤ i) :
    (es.map (shiftDown {} ltys.length)).all (holds rtys · y) = es.all (holds (ltys ++ rtys) · (x ++ y)) := by
  rw [List.all_map]
  exact all_congr_mem _ _ _ fun e he => holds_right _ _ _ _ _ hx (hc e he)

theorem filterPushdownJoin_eval (st : Store) (hst : wfStore st = true) (p : Expr) (k : JoinKind) (on : Option Expr)
    (l r : Plan) (hk : k = .inner ∨ k = .cross) :
    let lw := l.width st
    let c := classify lw p
    evalPlan st (.join k (combine (on.toList ++ c.2.2)) (filterOver (combine c.1) l)
        (filterOver (combine (c.2.1.map (shiftDown {} lw))) r))
      = evalPlan st (.filter p (.join k on l r)) := by
  intro lw c
  have hL := evalPlan_length st hst l
  simp only [evalPlan, Plan.tys, filterOver_tys, filterOver_eval, joinPure_inner_cross hk]
  symm
  apply flatMap_filter_pairs
  intro a ha b hb
  have hal : a.length = (l.tys st).length := hL a ha
  rw [holds_conjuncts, classify_all lw p, all_holds_left _ _ a b c.1 hal (classify_left lw p),
    ← all_holds_shift _ _ a b c.2.1 hal (classify_right lw p), holdsOpt_combine, List.all_append, ← holdsOpt_toList]
  simp only [lw, c, Plan.width]
  ac_rfl

theorem colRefs_spec (items : List Expr) (mapping : List Nat) (h : colRefs items = some mapping) :
    items = mapping.map Expr.col := by
  fun_induction colRefs items generalizing mapping with
  | case1 => cases h; rfl
  | case2 i es ih =>
    obtain ⟨m, hm, rfl⟩ := Option.map_eq_some_iff.1 h
    rw [List.map_cons, ← ih m hm]
  | case3 => cases h

theorem inferTy_col (tys : List Ty) (j : Nat) : inferTy tys (.col j) = tys.getD j .bigint := rfl

theorem projectRow_cols (tys : List Ty) (r : Row) (hr : conformsRow tys r = true) :
    ∀ mapping : List Nat, (∀ j ∈ mapping, j < r.length) →
      projectRow {} tys (mapping.map Expr.col) r = .ok (mapping.map (fun j => r.getD j .null))
  | [], _ => rfl
  | j :: js, h => by
    have hj : j < r.length := h j List.mem_cons_self
    have ih := projectRow_cols tys r hr js fun k hk => h k (List.mem_cons_of_mem _ hk)
    have hg : r.getD j .null = r[j] := by
      rw [List.getD_eq_getElem?_getD, List.getElem?_eq_getElem hj, Option.getD_some]
    have hc := (conformsV_iff _ _).1 (conformsRow_at hr j hj)
    rw [hg] at hc
    simp only [projectRow, List.map_cons, mapE, eval, List.getElem?_eq_getElem hj, inferTy_col, hc, hg] at ih ⊢
    rw [ih]

theorem project_cols_agree (tys : List Ty) (mapping : List Nat) (r r' : Row) (hr : conformsRow tys r = true)
    (h : projectRow {} tys (mapping.map Expr.col) r = .ok r') :
    r'.length = mapping.length ∧ ∀ j (hj : j < mapping.length), r'[j]? = r[mapping[j]]? := by
  simp only [projectRow] at h
  obtain ⟨hl, hi⟩ := mapE_ok _ _ _ h
  simp only [List.length_map] at hl
  refine ⟨hl, ?_⟩
  intro j hj
  have hj' : j < r'.length := hl ▸ hj
  have := hi j (by simpa using hj) hj'
  simp only [List.getElem_map, eval] at this
  cases hv : r[mapping[j]]? with
  | none => simp [hv] at this
  | some v =>
    simp only [hv] at this
    have hlt : mapping[j] < r.length := by
      rcases Nat.lt_or_ge mapping[j] r.length with h | h
      · exact h
      · rw [List.getElem?_eq_none h] at hv; simp at hv
    have hc := conformsRow_at hr mapping[j] hlt
    have hgd : r.getD mapping[j] .null = v := by simp [List.getD_eq_getElem?_getD, hv]
    rw [hgd] at hc
    have hcast := (conformsV_iff _ _).1 hc
    simp only [inferTy_col] at this
    rw [hcast] at this
    simp only [Except.ok.injEq] at this
    rw [List.getElem?_eq_getElem hj', ← this]

theorem filter_filterMap_comm {α β} (l : List α) (f : α → Option β) (q : β → Bool) (q' : α → Bool)
    (h : ∀ x ∈ l, ∀ y, f x = some y → q y = q' x) : (l.filterMap f).filter q = (l.filter q').filterMap f := by
  induction l with
  | nil => simp
  | cons x xs ih =>
    have ih' := ih (fun z hz => h z (by simp [hz]))
    cases hf : f x with
    | none =>
      simp only [List.filterMap_cons, hf, ih', List.filter_cons]
      split <;> simp [hf]
    | some y =>
      have := h x (by simp) y hf
      simp only [List.filterMap_cons, hf, List.filter_cons, this, ih']
      split <;> simp [hf]

theorem filterPushdownProject_eval (st : Store) (hst : wfStore st = true) (p : Expr) (items : List Expr) (c : Plan)
    (mapping : List Nat) (hm : colRefs items = some mapping) (hscope : ∀ i ∈ cols p, i < items.length) :
    evalPlan st (.project items (.filter (rewriteWith {} mapping p) c)) = evalPlan st (.filter p (.project items c)) := by
  have hitems := colRefs_spec items mapping hm
  subst hitems
  simp only [evalPlan, Plan.tys]
  symm
  apply filter_filterMap_comm
  intro r hr r' hpr
  split at hpr
  · rename_i r'' hproj
    simp only [Option.some.injEq] at hpr
    subst hpr
    obtain ⟨hl, hag⟩ := project_cols_agree _ _ _ _ (evalPlan_conforms st hst c r hr) hproj
    simp only [rewriteWith]
    symm
    apply holds_mapCols
    intro i hi
    have hlt : i < mapping.length := by simpa using hscope i hi
    constructor
    · have : mapping.getD i i = mapping[i] := by simp [List.getD_eq_getElem?_getD, hlt]
      show r[mapping.getD i i]? = r''[i]?
      rw [this, hag i hlt]
    · simp [List.getD_eq_getElem?_getD, hlt, inferTy_col]
  · simp at hpr

theorem range_map_getD {α} (l : List α) (d : α) : (List.range l.length).map (fun i => l.getD i d) = l := by
  apply List.ext_getElem
  · simp
  · intro i h1 h2
    simp [List.getD_eq_getElem?_getD, h2]

theorem restoreOrder_eq (lw rw : Nat) :
    restoreOrder lw rw = ((List.range lw).map (rw + ·) ++ List.range rw).map Expr.col := by
  simp only [restoreOrder, List.map_append, List.map_map, Function.comp_def]

theorem map_getD_append_right {α} (x y : List α) (d : α) :
    ((List.range y.length).map (x.length + ·)).map (fun j => (x ++ y).getD j d) = y := by
  conv => rhs; rw [← range_map_getD y d]
  rw [List.map_map]
  exact List.map_congr_left fun i _ => getD_of_getElem?_eq d
    (by rw [List.getElem?_append_right (Nat.le_add_right _ _), Nat.add_sub_cancel_left])

theorem map_getD_append_left {α} (x y : List α) (d : α) :
    (List.range x.length).map (fun j => (x ++ y).getD j d) = x := by
  conv => rhs; rw [← range_map_getD x d]
  exact List.map_congr_left fun i hi => getD_of_getElem?_eq d (List.getElem?_append_left (List.mem_range.1 hi))

theorem restoreOrder_tys (ltys rtys : List Ty) :
    (restoreOrder ltys.length rtys.length).map (inferTy (rtys ++ ltys)) = ltys ++ rtys := by
  rw [restoreOrder_eq, List.map_map, List.map_append]
  exact congrArg₂ (· ++ ·) (map_getD_append_right rtys ltys .bigint) (map_getD_append_left rtys ltys .bigint)

theorem projectRow_restore (ltys rtys : List Ty) (a b : Row) (ha : conformsRow ltys a = true)
    (hb : conformsRow rtys b = true) :
    projectRow {} (rtys ++ ltys) (restoreOrder ltys.length rtys.length) (b ++ a) = .ok (a ++ b) := by
  have hla := conformsRow_length ha
  have hlb := conformsRow_length hb
  rw [restoreOrder_eq, projectRow_cols _ _ (conformsRow_append hb ha), ← hla, ← hlb, List.map_append,
    map_getD_append_right, map_getD_append_left]
  intro j hj
  rw [List.length_append]
  rcases List.mem_append.1 hj with hj | hj
  · obtain ⟨i, hi, rfl⟩ := List.mem_map.1 hj
    have := List.mem_range.1 hi
    omega
  · have := List.mem_range.1 hj
    omega

theorem holds_commuted (ltys rtys : List Ty) (a b : Row) (e : Expr) (ha : a.length = ltys.length)
    (hb : b.length = rtys.length) (hscope : ∀ i ∈ cols e, i < ltys.length + rtys.length) :
    holds (rtys ++ ltys) (mapCols (fun i => if i < ltys.length then i + rtys.length else i - ltys.length) e) (b ++ a)
      = holds (ltys ++ rtys) e (a ++ b) :=
  holds_mapCols _ _ _ _ _ e fun i hi =>
    agreeAt_of_getElem? (getElem?_append_swap ha hb (hscope i hi)) (getElem?_append_swap rfl rfl (hscope i hi))

theorem joinCommute_eval (st : Store) (hst : wfStore st = true) (k : JoinKind) (on : Option Expr) (l r : Plan)
    (hk : k = .inner ∨ k = .cross) (hscope : ∀ e, on = some e → ∀ i ∈ cols e, i < l.width st + r.width st) :
    let lw := l.width st
    let rw := r.width st
    (evalPlan st (.project (restoreOrder lw rw)
        (.join k (on.map (mapCols (fun i => if i < lw then i + rw else i - lw))) r l))).Perm
      (evalPlan st (.join k on l r)) := by
  intro lw rwd
  have hL := evalPlan_conforms st hst l
  have hR := evalPlan_conforms st hst r
  simp only [evalPlan, Plan.tys, joinPure_inner_cross hk]
  -- the projection maps every pair `b ++ a` to `a ++ b`
  refine List.Perm.trans (List.Perm.of_eq (filterMap_eq_map _ _ (swapCols rwd) ?_)) ?_
  · intro x hx
    simp only [List.mem_flatMap, List.mem_map, List.mem_filter] at hx
    obtain ⟨b, hb, a, ⟨ha, _⟩, rfl⟩ := hx
    have hlb := conformsRow_length (hR b hb)
    have := projectRow_restore (l.tys st) (r.tys st) a b (hL a ha) (hR b hb)
    simp only [lw, rwd, Plan.width, this]
    rw [← hlb, swapCols_append]
  -- what is left enumerates the pairs right-major, the original join left-major: `pairs_swap`
  rw [List.map_flatMap]
  have hswap := pairs_swap (fun a b => holdsOpt (l.tys st ++ r.tys st) on (a ++ b)) (fun a b => a ++ b)
    (evalPlan st l) (evalPlan st r)
  refine List.Perm.trans (List.Perm.of_eq ?_) hswap.symm
  apply flatMap_congr_mem
  intro b hb
  have hlb := conformsRow_length (hR b hb)
  rw [List.map_map]
  have hfil : (evalPlan st l).filter (fun a => holdsOpt (r.tys st ++ l.tys st)
        (on.map (mapCols (fun i => if i < lw then i + rwd else i - lw))) (b ++ a))
      = (evalPlan st l).filter (fun a => holdsOpt (l.tys st ++ r.tys st) on (a ++ b)) := by
    apply List.filter_congr
    intro a ha
    have hla := conformsRow_length (hL a ha)
    cases on with
    | none => rfl
    | some e =>
      simp only [Option.map, holdsOpt]
      exact holds_commuted _ _ _ _ _ hla hlb (hscope e rfl)
  rw [hfil]
  apply List.map_congr_left
  intro a _
  show swapCols rwd (b ++ a) = a ++ b
  rw [show rwd = b.length from hlb.symm, swapCols_append]

theorem holdsOpt_conjuncts (tys : List Ty) (on : Option Expr) (r : Row) :
    holdsOpt tys on r = (optConj conjuncts on).all (holds tys · r) := by
  cases on with
  | none => simp [holdsOpt, optConj]
  | some e => exact holds_conjuncts tys r e

theorem allColsGe_not_below (k : Nat) (e : Expr) : allColsGe {} k e = !anyColBelow {} k e := by
  show ((cols e).all fun i => decide (k ≤ i)) = !((cols e).any fun i => decide (i < k))
  induction cols e with
  | nil => rfl
  | cons i is ih =>
    have hd : decide (k ≤ i) = !decide (i < k) := by
      by_cases h : k ≤ i
      · simp [h, Nat.not_lt.mpr h]
      · simp [h, Nat.lt_of_not_le h]
    simp only [List.all_cons, List.any_cons, ih, Bool.not_or, hd]

theorem conjuncts_cols (e0 e : Expr) (he : e ∈ conjuncts e0) : ∀ i ∈ cols e, i ∈ cols e0 := by
  fun_induction conjuncts e0 with
  | case1 a b iha ihb =>
    intro i hi
    exact List.mem_append.2 ((List.mem_append.1 he).imp (fun h => iha h i hi) (fun h => ihb h i hi))
  | case2 e0 _ => cases List.mem_singleton.1 he; exact fun _ hi => hi

/-- both shapes of a three-way inner join enumerate the triples in the same order -/
theorem assoc_shape (A B C : List Row) (mi : Row → Row → Bool) (mo : Row → Row → Bool) (mbc mac : Row → Row → Bool)
    (h : ∀ a ∈ A, ∀ b ∈ B, ∀ c ∈ C, (mi a b && mo (a ++ b) c) = (mbc b c && mac a (b ++ c))) :
    (A.flatMap (fun a => (B.filter (mi a)).map (a ++ ·))).flatMap (fun ab => (C.filter (mo ab)).map (ab ++ ·))
      = A.flatMap (fun a => ((B.flatMap (fun b => (C.filter (mbc b)).map (b ++ ·))).filter (mac a)).map (a ++ ·)) := by
  rw [List.flatMap_assoc]
  apply flatMap_congr_mem
  intro a ha
  rw [List.flatMap_map, filter_flatMap_if, List.filter_flatMap, List.map_flatMap]
  apply flatMap_congr_mem
  intro b hb
  rw [List.filter_map, List.map_map, List.filter_filter]
  have : (if mi a b then (C.filter (mo (a ++ b))).map (a ++ b ++ ·) else [])
      = (C.filter (fun c => mi a b && mo (a ++ b) c)).map (a ++ b ++ ·) := by
    cases mi a b <;> simp
  rw [this]
  have hf : C.filter (fun c => mi a b && mo (a ++ b) c)
      = C.filter (fun c => (mac a ∘ fun x => b ++ x) c && mbc b c) := by
    apply List.filter_congr
    intro c hc
    rw [h a ha b hb c hc, Bool.and_comm]
    rfl
  rw [hf]
  apply List.map_congr_left
  intro c _
  simp [Function.comp, List.append_assoc]

theorem optConj_collectForRange (k : Nat) (on : Option Expr) :
    optConj (collectForRange {} k) on = ((optConj conjuncts on).filter (allColsGe {} k)).map (shiftDown {} k) := by
  cases on <;> rfl

theorem optConj_collectInvolving (k : Nat) (on : Option Expr) :
    optConj (collectInvolving {} k) on = (optConj conjuncts on).filter (fun e => !allColsGe {} k e) := by
  cases on with
  | none => rfl
  | some e => exact List.filter_congr fun e _ => by rw [allColsGe_not_below, Bool.not_not]

theorem joinAssoc_eval (st : Store) (hst : wfStore st = true) (outer inner : Option Expr) (a b c : Plan)
    (hscope : ∀ e, inner = some e → ∀ i ∈ cols e, i < a.width st + b.width st) :
    let aw := a.width st
    evalPlan st (.join .inner
        (combine (optConj (collectInvolving {} aw) inner ++ optConj (collectInvolving {} aw) outer)) a
        (.join .inner (combine (optConj (collectForRange {} aw) outer ++ optConj (collectForRange {} aw) inner)) b c))
      = evalPlan st (.join .inner outer (.join .inner inner a b) c) := by
  intro aw
  have hA := evalPlan_length st hst a
  have hB := evalPlan_length st hst b
  simp only [evalPlan, Plan.tys, joinPure_inner_cross (.inl rfl)]
  symm
  apply assoc_shape
  intro x hx y hy z hz
  have hxl := hA x hx
  have hyl := hB y hy
  -- everything is read on the triple `x ++ y ++ z` with the schema of the three inputs
  have hin : holdsOpt (a.tys st ++ b.tys st) inner (x ++ y)
      = (optConj conjuncts inner).all (holds (a.tys st ++ (b.tys st ++ c.tys st)) · (x ++ (y ++ z))) := by
    rw [holdsOpt_conjuncts, ← List.append_assoc, ← List.append_assoc]
    refine (all_holds_left _ _ _ _ _ (by simp [hxl, hyl]) fun e he i hi => ?_).symm
    cases inner with
    | none => cases he
    | some e0 => simpa [Plan.width] using hscope e0 rfl i (conjuncts_cols e0 e he i hi)
  have hout : holdsOpt (a.tys st ++ b.tys st ++ c.tys st) outer (x ++ y ++ z)
      = (optConj conjuncts outer).all (holds (a.tys st ++ (b.tys st ++ c.tys st)) · (x ++ (y ++ z))) := by
    rw [holdsOpt_conjuncts, List.append_assoc, List.append_assoc]
  have hge : ∀ (on : Option Expr),
      (optConj (collectForRange {} aw) on).all (holds (b.tys st ++ c.tys st) · (y ++ z))
        = ((optConj conjuncts on).filter (allColsGe {} aw)).all (holds (a.tys st ++ (b.tys st ++ c.tys st)) · (x ++ (y ++ z))) := by
    intro on
    rw [optConj_collectForRange]
    refine all_holds_shift _ _ x _ _ hxl fun e he => ?_
    simpa [allColsGe, aw, Plan.width] using (List.mem_filter.1 he).2
  rw [hin, hout, holdsOpt_combine, holdsOpt_combine, List.all_append, List.all_append, hge, hge,
    optConj_collectInvolving, optConj_collectInvolving,
    all_filter_split (optConj conjuncts inner) (allColsGe {} aw), all_filter_split (optConj conjuncts outer) (allColsGe {} aw)]
  ac_rfl

theorem keyPos_spec (ixcols : List Nat) (c pos : Nat) (h : keyPos ixcols c = some pos) : ixcols[pos]? = some c := by
  revert pos
  fun_induction keyPos ixcols c <;> intro pos h
  case case1 => cases h
  case case2 =>
    cases h
    rfl
  case case3 x xs c _ ih =>
    obtain ⟨q, hq, rfl⟩ := Option.map_eq_some_iff.1 h
    exact ih q hq

theorem keyOf_at (ixcols : List Nat) (r : Row) (pos c : Nat) (h : ixcols[pos]? = some c) :
    (keyOf ixcols r)[pos]? = some (r.getD c .null) := by
  simp [keyOf, List.getElem?_map, h]

theorem cmp3_null_right (op : CmpOp) (a : Value) : cmp3 op a .null = none := by
  cases a <;> rfl

theorem holds_swap_lt (o : Ordering) : CmpOp.holds .gt o.swap = CmpOp.holds .lt o := by cases o <;> rfl
theorem holds_swap_le (o : Ordering) : CmpOp.holds .ge o.swap = CmpOp.holds .le o := by cases o <;> rfl
theorem holds_swap_eq (o : Ordering) : CmpOp.holds .eq o.swap = CmpOp.holds .eq o := by cases o <;> rfl

theorem cmp3_of_nonnull (op : CmpOp) (a b : Value) (ha : a ≠ .null) (hb : b ≠ .null) :
    cmp3 op a b = some (op.holds (a.cmp b)) := by
  cases a <;> cases b <;> simp_all [cmp3]

def mirror : CmpOp → CmpOp
  | .lt => .gt | .gt => .lt | .le => .ge | .ge => .le | o => o

theorem cmp3_mirror (op : CmpOp) (a b : Value) : cmp3 op a b = cmp3 (mirror op) b a := by
  by_cases ha : a = .null
  · rw [ha, cmp3_null_left, cmp3_null_right]
  by_cases hb : b = .null
  · rw [hb, cmp3_null_left, cmp3_null_right]
  rw [cmp3_of_nonnull _ a b ha hb, cmp3_of_nonnull _ b a hb ha, Value.cmp_swap a b]
  cases op <;> cases a.cmp b <;> rfl

/-- `≤`, `≥` and `=` in terms of the strict comparisons, as the bounds of an index scan test them -/
theorem cmp3_split (a b : Value) :
    (cmp3 .le a b == some true) = (cmp3 .lt a b == some true || cmp3 .eq a b == some true)
      ∧ (cmp3 .ge a b == some true) = (cmp3 .gt a b == some true || cmp3 .eq a b == some true)
      ∧ (cmp3 .eq a b == some true)
          = ((cmp3 .lt a b == some true || cmp3 .eq a b == some true)
              && (cmp3 .gt a b == some true || cmp3 .eq a b == some true)) := by
  by_cases ha : a = .null
  · simp only [ha, cmp3_null_left]; exact ⟨rfl, rfl, rfl⟩
  by_cases hb : b = .null
  · simp only [hb, cmp3_null_right]; exact ⟨rfl, rfl, rfl⟩
  simp only [cmp3_of_nonnull _ a b ha hb]
  cases a.cmp b <;> exact ⟨rfl, rfl, rfl⟩

theorem holds_cmp_col_lit (tys : List Ty) (op : CmpOp) (c : Nat) (v : Value) (r : Row) :
    holds tys (.cmp op (.col c) (.lit v)) r = (cmp3 op (r.getD c .null) v == some true) := by
  simp only [holds, evalPred, eval, List.getD_eq_getElem?_getD]
  cases hc : r[c]? with
  | none => simp [cmp3_null_left]
  | some kv =>
    simp only [Option.getD_some]
    cases h : cmp3 op kv v with
    | none => simp [TV.toValue]
    | some b => cases b <;> simp [TV.toValue]

theorem holds_cmp_lit_col (tys : List Ty) (op : CmpOp) (c : Nat) (v : Value) (r : Row) :
    holds tys (.cmp op (.lit v) (.col c)) r = (cmp3 op v (r.getD c .null) == some true) := by
  simp only [holds, evalPred, eval, List.getD_eq_getElem?_getD]
  cases hc : r[c]? with
  | none => simp [cmp3_null_right]
  | some kv =>
    simp only [Option.getD_some]
    cases h : cmp3 op v kv with
    | none => simp [TV.toValue]
    | some b => cases b <;> simp [TV.toValue]

theorem boundOk_start (key : List Value) (pos : Nat) (v kv : Value) (incl : Bool) (hk : key[pos]? = some kv) :
    boundOk true key ⟨pos, v, incl⟩ = (cmp3 .lt v kv == some true || (incl && cmp3 .eq v kv == some true)) := by
  simp [boundOk, hk]

theorem boundOk_end (key : List Value) (pos : Nat) (v kv : Value) (incl : Bool) (hk : key[pos]? = some kv) :
    boundOk false key ⟨pos, v, incl⟩ = (cmp3 .gt v kv == some true || (incl && cmp3 .eq v kv == some true)) := by
  simp [boundOk, hk]

theorem boundsLitCol_spec (pos : Nat) (v kv : Value) (op : CmpOp) (lo hi : List Bound) (key : List Value)
    (hk : key[pos]? = some kv) (h : boundsLitCol pos v op = some (lo, hi)) :
    (cmp3 op v kv == some true) = (lo.all (boundOk true key) && hi.all (boundOk false key)) := by
  cases op <;> simp only [boundsLitCol, Option.some.injEq, Prod.mk.injEq, reduceCtorEq] at h
  · obtain ⟨rfl, rfl⟩ := h
    simp only [List.all_cons, List.all_nil, Bool.and_true, boundOk_start key pos v kv _ hk, boundOk_end key pos v kv _ hk,
      Bool.true_and]
    exact (cmp3_split v kv).2.2
  · obtain ⟨rfl, rfl⟩ := h
    simp only [List.all_cons, List.all_nil, Bool.and_true, boundOk_start key pos v kv _ hk, Bool.false_and, Bool.or_false]
  · obtain ⟨rfl, rfl⟩ := h
    simp only [List.all_cons, List.all_nil, Bool.and_true, boundOk_start key pos v kv _ hk, Bool.true_and]
    exact (cmp3_split v kv).1
  · obtain ⟨rfl, rfl⟩ := h
    simp only [List.all_cons, List.all_nil, Bool.and_true, boundOk_end key pos v kv _ hk, Bool.false_and, Bool.or_false,
      Bool.true_and]
  · obtain ⟨rfl, rfl⟩ := h
    simp only [List.all_cons, List.all_nil, Bool.and_true, boundOk_end key pos v kv _ hk, Bool.true_and]
    exact (cmp3_split v kv).2.1

theorem boundsColLit_eq (pos : Nat) (v : Value) (op : CmpOp) : boundsColLit pos v op = boundsLitCol pos v (mirror op) := by
  cases op <;> rfl

theorem boundsColLit_spec (pos : Nat) (v kv : Value) (op : CmpOp) (lo hi : List Bound) (key : List Value)
    (hk : key[pos]? = some kv) (h : boundsColLit pos v op = some (lo, hi)) :
    (cmp3 op kv v == some true) = (lo.all (boundOk true key) && hi.all (boundOk false key)) := by
  rw [cmp3_mirror]
  exact boundsLitCol_spec pos v kv _ lo hi key hk (boundsColLit_eq pos v op ▸ h)

theorem boundOfConjunct_spec (ixcols : List Nat) (tys : List Ty) (r : Row) (e : Expr) :
    holds tys e r = ((boundOfConjunct ixcols e).1.all (boundOk true (keyOf ixcols r))
      && ((boundOfConjunct ixcols e).2.1.all (boundOk false (keyOf ixcols r))
      && (boundOfConjunct ixcols e).2.2.all (holds tys · r))) := by
  fun_cases boundOfConjunct ixcols e
  · -- `column op literal` on a key column with a usable operator: bounds, no residual
    rename_i op c v lo hi hb
    simp only [List.all_nil, Bool.and_true]
    obtain ⟨pos, hpos, hb⟩ := Option.bind_eq_some_iff.1 hb
    rw [holds_cmp_col_lit]
    exact boundsColLit_spec pos v _ op lo hi _ (keyOf_at ixcols r pos c (keyPos_spec _ _ _ hpos)) hb
  · -- `column op literal` otherwise: the conjunct is its own residual
    simp
  · -- `literal op column` on a key column with a usable operator
    rename_i op v c lo hi hb
    simp only [List.all_nil, Bool.and_true]
    obtain ⟨pos, hpos, hb⟩ := Option.bind_eq_some_iff.1 hb
    rw [holds_cmp_lit_col]
    exact boundsLitCol_spec pos v _ op lo hi _ (keyOf_at ixcols r pos c (keyPos_spec _ _ _ hpos)) hb
  · -- `literal op column` otherwise
    simp
  · -- any other conjunct
    simp

theorem all_and {α} (l : List α) (f g : α → Bool) : l.all (fun x => f x && g x) = (l.all f && l.all g) := by
  induction l with
  | nil => rfl
  | cons x xs ih =>
    rw [List.all_cons, List.all_cons, List.all_cons, ih]
    cases f x <;> cases g x <;> cases xs.all f <;> rfl

theorem extractBounds_spec (ixcols : List Nat) (tys : List Ty) (p : Expr) (r : Row) :
    holds tys p r = (boundsOk (extractBounds ixcols p).1 (extractBounds ixcols p).2.1 (keyOf ixcols r)
      && holdsOpt tys (extractBounds ixcols p).2.2 r) := by
  rw [holds_conjuncts]
  simp only [extractBounds, boundsOk, holdsOpt_combine, List.all_flatMap, List.all_map]
  rw [Bool.and_assoc, ← all_and, ← all_and]
  apply all_congr_mem
  intro e _
  simp only [Function.comp]
  rw [boundOfConjunct_spec ixcols tys r e]

theorem boundOk_null (start : Bool) (key : List Value) (b : Bound) (h : key[b.pos]? = some .null) :
    boundOk start key b = false := by
  simp only [boundOk, h]
  cases start <;> simp [cmp3_null_right]

theorem boundsOk_false_of_null (lo hi : List Bound) (key : List Value) (j : Nat) (hj : key[j]? = some .null)
    (hb : (lo ++ hi).any (fun b => b.pos == j) = true) : boundsOk lo hi key = false := by
  simp only [List.any_append, Bool.or_eq_true, List.any_eq_true, beq_iff_eq] at hb
  simp only [boundsOk]
  rcases hb with ⟨b, hb, rfl⟩ | ⟨b, hb, rfl⟩
  · have : lo.all (boundOk true key) = false := by
      apply List.all_eq_false.mpr
      exact ⟨b, hb, by simp [boundOk_null true key b hj]⟩
    simp [this]
  · have : hi.all (boundOk false key) = false := by
      apply List.all_eq_false.mpr
      exact ⟨b, hb, by simp [boundOk_null false key b hj]⟩
    simp [this]

theorem wfTable_notNull {tb : STable} (h : wfTable tb = true) {x : Nat × Row} (hx : x ∈ tb.rows) (c : Nat)
    (hn : x.2.getD c .null = .null) : tb.notNull.getD c false = false := by
  simp only [wfTable, List.all_eq_true, Bool.and_eq_true] at h
  have := (h x hx).2
  simp only [respectsNotNull, List.all_eq_true, List.mem_range] at this
  by_cases hc : c < tb.notNull.length
  · have := this c hc
    simp only [hn, bne_self_eq_false, Bool.or_false, Bool.not_eq_eq_eq_not, Bool.not_true] at this
    exact this
  · simp [List.getD_eq_getElem?_getD, List.getElem?_eq_none (Nat.le_of_not_lt hc)]

theorem hasNull_witness (k : List Value) (h : hasNull k = true) : ∃ j : Nat, k[j]? = some Value.null := by
  simp only [hasNull, List.any_eq_true, beq_iff_eq] at h
  obtain ⟨v, hv, rfl⟩ := h
  obtain ⟨j, hj, hjv⟩ := List.getElem_of_mem hv
  exact ⟨j, by simp [hj, hjv]⟩

theorem boundsOk_false_of_hasNull (tb : STable) (hwf : wfTable tb = true) (ixcols : List Nat) (lo hi : List Bound)
    (hnb : nullableBounded tb ixcols lo hi = true) (x : Nat × Row) (hx : x ∈ tb.rows)
    (hn : hasNull (keyOf ixcols x.2) = true) : boundsOk lo hi (keyOf ixcols x.2) = false := by
  obtain ⟨j, hj⟩ := hasNull_witness _ hn
  have hjl : j < ixcols.length := by
    rcases Nat.lt_or_ge j ixcols.length with h | h
    · exact h
    · simp [keyOf, List.getElem?_map, List.getElem?_eq_none h] at hj
  have hcol : x.2.getD (ixcols.getD j 0) .null = .null := by
    simp only [keyOf, List.getElem?_map, List.getElem?_eq_getElem hjl, Option.map_some, Option.some.injEq] at hj
    simpa [List.getD_eq_getElem?_getD, hjl] using hj
  have hnn := wfTable_notNull hwf hx _ hcol
  simp only [nullableBounded, List.all_eq_true, List.mem_range] at hnb
  have := hnb j hjl
  simp only [hnn, Bool.false_or] at this
  exact boundsOk_false_of_null lo hi _ j hj this

theorem indexScan_eval (st : Store) (hwf : wfStore st = true) (hc : StoreConsistent st) (t k : Nat) (p : Expr)
    (ix : Index) (hix : (st.getD t default).indexes[k]? = some ix)
    (hnb : nullableBounded (st.getD t default) ix.cols (extractBounds ix.cols p).1 (extractBounds ix.cols p).2.1 = true) :
    (evalPlan st (.indexScan t k (extractBounds ix.cols p).1 (extractBounds ix.cols p).2.1 (extractBounds ix.cols p).2.2)).Perm
      (evalPlan st (.filter p (.scan t))) := by
  have hmem : st.getD t default ∈ st := by
    rcases getD_default_or_mem st t with h' | h'
    · rw [h'] at hix; cases hix
    · exact h'
  obtain ⟨hrids, hcons⟩ := hc _ hmem
  have hixc := hcons ix (List.mem_of_getElem? hix)
  have hwft := wfStore_table hwf t
  simp only [evalPlan, indexScanRows, hix, Plan.tys]
  have hs := scan_perm ix (st.getD t default).rows (extractBounds ix.cols p).1 (extractBounds ix.cols p).2.1 hixc hrids
  refine (hs.filter _).trans (List.Perm.of_eq ?_)
  rw [List.filter_map, List.filter_map, List.filter_filter]
  congr 1
  apply List.filter_congr
  intro x hx
  simp only [Function.comp]
  rw [extractBounds_spec ix.cols (st.getD t default).tys p x.2]
  cases hn : hasNull (keyOf ix.cols x.2)
  · simp [Bool.and_comm]
  · have := boundsOk_false_of_hasNull _ hwft ix.cols _ _ hnb x hx hn
    simp [this]

end AxVerif.Plan
