/-
  Helper lemmas for the tuple model, part 4: the whole encoded row — `decodeFor` on `encode L` (followed by up to 15
  bytes of anything, which covers the padded form) is `specVisible`.
-/
import AxVerif.Lemmas.TupleDelta
namespace AxVerif.Tuple
open AxVerif

structure WfRow (P : Params) (sch : Schema) (L : LRow) : Prop where
  keys : CellsFit P sch.keys (L.keys.map some)
  cur : CellsFit P sch.vals L.cur.vals
  creator : L.cur.creator < 2 ^ 64
  ver : L.cur.ver < 256
  deleter : XmaxOk L.deleter
  hist : HistOk P sch L.cur.vals L.hist

abbrev LRow.main (L : LRow) (P : Params) (sch : Schema) : Bytes :=
  encMain P sch L.cur.creator L.deleter L.cur.ver L.keys L.cur.vals

theorem encode_eq (P : Params) (sch : Schema) (L : LRow) :
    encode P sch L = L.main P sch
      ++ (if L.hist.isEmpty && !L.trail then [] else padTo (L.main P sch).length P.dhAlign)
      ++ encBlock P sch 0 L.hist := rfl

theorem encode_gap {P : Params} (hP : P.Wf) (sch : Schema) {L : LRow} (h : (L.hist.isEmpty && !L.trail) = false) :
    encode P sch L = L.main P sch
      ++ padTo (L.main P sch).length P.dhAlign
      ++ encBlock P sch (alignUp (L.main P sch).length P.dhAlign) L.hist := by
  rw [encode_eq, h, if_neg Bool.false_ne_true, encBlock_of_dvd hP sch (dvd_alignUp _ _)]

theorem encode_block {P : Params} (hP : P.Wf) (sch : Schema) {L : LRow} (hE : (L.hist.isEmpty && !L.trail) = false)
    {d : Bytes} (h : At d 0 (encode P sch L)) :
    At d (alignUp (L.main P sch).length P.dhAlign)
        (encBlock P sch (alignUp (L.main P sch).length P.dhAlign) L.hist)
      ∧ (encode P sch L).length
        = (encBlock P sch (alignUp (L.main P sch).length P.dhAlign)
            L.hist).length
          + alignUp (L.main P sch).length P.dhAlign := by
  rw [encode_gap hP sch hE] at h ⊢
  have hB := h.right
  rw [Nat.zero_add, List.length_append, add_padTo_length hP.dha_pos] at hB
  exact ⟨hB, by rw [List.length_append, List.length_append, add_padTo_length hP.dha_pos, Nat.add_comm]⟩

theorem encode_length_of_nil {P : Params} (hP : P.Wf) (sch : Schema) {L : LRow} (h : L.hist = []) :
    (encode P sch L).length
      ≤ alignUp (L.main P sch).length P.dhAlign := by
  rw [encode_eq, h, encBlock, List.append_nil]
  generalize L.main P sch = M
  split
  · rw [List.append_nil]; exact alignUp_ge hP.dha_pos
  · rw [List.length_append]; exact Nat.le_of_eq (add_padTo_length hP.dha_pos)

theorem parseLast_encode {P : Params} (hP : P.Wf) {sch : Schema} {L : LRow} (hw : WfRow P sch L) {d : Bytes}
    (h : At d 0 (encode P sch L)) :
    ∃ lay, parseLast P sch d = .ok lay
      ∧ lay.vxmin = L.cur.creator ∧ lay.vxmax = L.deleter ∧ lay.version = L.cur.ver
      ∧ lay.dataEnd = (L.main P sch).length
      ∧ LayoutOk P sch d lay L.keys L.cur.vals :=
  parseLast_main hP sch hw.creator hw.deleter hw.ver hw.keys hw.cur (encode_eq P sch L ▸ h).left.left

theorem decide_eq_comm (a b : Nat) : decide (a = b) = decide (b = a) := decide_eq_decide.mpr eq_comm

theorem deletedFor_eq (s : Snapshot) (x : Option Nat) : deletedFor {} s x = specDeleted {} s x := by
  cases x with
  | none => rfl
  | some x => exact Bool.or_comm _ _

theorem validFor_eq (s : Snapshot) (lay : Layout) (h : specDeleted {} s lay.vxmax = false) :
    validFor {} s lay = creatorVisible {} s lay.vxmin := by
  have hc : (committedBefore {} s lay.vxmin || decide (s.xid = lay.vxmin)) = creatorVisible {} s lay.vxmin := by
    rw [creatorVisible, Bool.or_comm, decide_eq_comm]
  unfold validFor
  cases hx : lay.vxmax with
  | none => exact hc
  | some x =>
    rw [hx, specDeleted, creatorVisible, Bool.or_comm, decide_eq_comm] at h
    simp only [hc, h, Bool.not_false, Bool.and_true]

theorem decodeFor_encode_append {P : Params} (hP : P.Wf) (sch : Schema) (L : LRow) (hw : WfRow P sch L) (s : Snapshot)
    (post : Bytes) (hpost : post.length < P.dhSize) :
    decodeFor {} P sch s (encode P sch L ++ post) = .ok (specVisible {} s L) := by
  have h := At.prefix (encode P sch L) post
  have hdl : (encode P sch L ++ post).length = (encode P sch L).length + post.length := List.length_append
  generalize encode P sch L ++ post = d at h hdl
  obtain ⟨lay, hpl, hxmin, hxmax, _, hend, hl⟩ := parseLast_encode hP hw h
  simp only [decodeFor, parseForSnapshot, hpl, deletedFor_eq, specVisible, hxmax]
  cases hdel : specDeleted {} s L.deleter with
  | true => rfl  -- the reader sees the delete: nothing is decoded
  | false =>
    simp only [Bool.false_eq_true, if_false, firstVisible, validFor_eq s lay (hxmax ▸ hdel), hxmin]
    cases hv : creatorVisible {} s L.cur.creator with
    | true => simp only [if_true, toRow_of_layoutOk hl]  -- the newest version is the reader's
    | false =>
      -- otherwise the walk over the history decides
      simp only [Bool.false_eq_true, if_false, hend]
      cases hE : (L.hist.isEmpty && !L.trail) with
      | true =>
        -- no delta, no gap: the data ends less than a delta header behind the main part
        have hnil : L.hist = [] := List.isEmpty_iff.mp (Bool.and_eq_true_iff.mp hE).1
        have := encode_length_of_nil hP sch hnil
        rw [walk_none_of_short hP sch s _ lay (by omega), hnil]
        rfl
      | false =>
        obtain ⟨hB, hlen⟩ := encode_block hP sch hE h
        have := encBlock_length_ge hP sch L.hist
          (alignUp (L.main P sch).length P.dhAlign)
        have hwalk := walk_block hP sch s L.keys L.hist _ lay L.cur.vals d.length hB (by omega) hw.hist hl
          (by omega)
        cases hfv : firstVisible {} s (L.hist.map (·.1)) with
        | none => rw [hfv] at hwalk; rw [hwalk]
        | some v =>
          rw [hfv] at hwalk
          obtain ⟨lay', hw1, hl'⟩ := hwalk
          rw [hw1]
          simp only [toRow_of_layoutOk hl']

end AxVerif.Tuple
