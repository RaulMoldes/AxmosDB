/-
  Lemmas for the latch model (C14): program disciplines (`pagerOk`, `noW`, `Guarded`), invariants of reachable states and
  the deadlock-freedom arguments.
-/
import AxVerif.Model.Latch
namespace AxVerif.Latch

variable {D : Defects} {rootOf : Nat → Nat}

/-- the pager lock is released by the very next instruction after it was taken: nothing that can wait sits inside -/
def pagerOk : Bool → List Instr → Bool
  | pg, [] => !pg
  | pg, .lockPager :: rest => !pg && pagerOk true rest
  | pg, .unlockPager :: rest => pg && pagerOk false rest
  | pg, _ :: rest => !pg && pagerOk false rest

def noW : List Instr → Bool
  | [] => true
  | .acq _ .W :: _ => false
  | _ :: rest => noW rest

def pages (held : List (Nat × Mode)) : List Nat := held.map (·.1)

/-- `rootOf p` = root page of the tree page `p` belongs to (`rootOf p = p` for a root). -/
def Closed (rootOf : Nat → Nat) (held : List (Nat × Mode)) : Prop :=
  ∀ h ∈ held, ∃ g ∈ held, g.1 = rootOf h.1 ∧ (h.2 = .W → g.2 = .W)

/-- At the moment a thread starts to wait for page `p` in mode `m` while holding `held`: the hands are `Closed`, and
    * either they are empty, and the request is for a root or for reading;
    * or the root of `p`'s tree is held — in write mode for a write request —, `p` is not write-requested while held nor
      requested at all while write-held; if `p` is that root itself this is a second read guard of it, which needs
      re-entrant read latches (no defect). -/
def AcqOk (D : Defects) (rootOf : Nat → Nat) (held : List (Nat × Mode)) (p : Nat) (m : Mode) : Prop :=
  Closed rootOf held ∧
  ((held = [] ∧ (rootOf p = p ∨ m = .R)) ∨
   ((∃ g ∈ held, g.1 = rootOf p ∧ (m = .W → g.2 = .W)) ∧ (m = .W → p ∉ pages held) ∧ (p, Mode.W) ∉ held ∧
     (rootOf p = p → D.readLatchQueuesBehindWriter = false)))

/-- the discipline of the tree code: root first, everything else under the root (see `AcqOk`), empty hands at the end.
    The first argument follows the hands of the thread that runs the program. -/
def Guarded (D : Defects) (rootOf : Nat → Nat) : List (Nat × Mode) → List Instr → Prop
  | held, [] => held = []
  | held, .acq p m :: rest => AcqOk D rootOf held p m ∧ Guarded D rootOf ((p, m) :: held) rest
  | held, .rel p :: rest => Guarded D rootOf (relOne p held) rest
  | _, .relAll :: rest => Guarded D rootOf [] rest
  | held, _ :: rest => Guarded D rootOf held rest

section
variable {held : List (Nat × Mode)} {rest : List Instr} {p : Nat} {m : Mode}

theorem guarded_nil : Guarded D rootOf held [] ↔ held = [] := Iff.rfl
theorem guarded_acq :
    Guarded D rootOf held (.acq p m :: rest) ↔ AcqOk D rootOf held p m ∧ Guarded D rootOf ((p, m) :: held) rest := Iff.rfl
theorem guarded_rel : Guarded D rootOf held (.rel p :: rest) ↔ Guarded D rootOf (relOne p held) rest := Iff.rfl
theorem guarded_relAll : Guarded D rootOf held (.relAll :: rest) ↔ Guarded D rootOf [] rest := Iff.rfl
theorem guarded_lockPager : Guarded D rootOf held (.lockPager :: rest) ↔ Guarded D rootOf held rest := Iff.rfl
theorem guarded_unlockPager : Guarded D rootOf held (.unlockPager :: rest) ↔ Guarded D rootOf held rest := Iff.rfl
theorem guarded_fetch :
    Guarded D rootOf held (fetch p m ++ rest) ↔ AcqOk D rootOf held p m ∧ Guarded D rootOf ((p, m) :: held) rest := Iff.rfl

end

-- from here on `Guarded` is used through the seven statements above: left reducible, `whnf` runs it along whole programs
attribute [irreducible] Guarded

def WaitOk (t : Thread) : Prop := t.waiting = true → ∃ p m rest, t.prog = .acq p m :: rest

theorem mem_relOne {p : Nat} {h : Nat × Mode} {held : List (Nat × Mode)} (hm : h ∈ relOne p held) : h ∈ held := by
  revert hm
  fun_induction relOne p held with
  | case1 => exact id
  | case2 x xs hx => exact List.mem_cons_of_mem _
  | case3 x xs hx ih =>
    exact fun hm => (List.mem_cons.1 hm).elim (fun e => e ▸ List.mem_cons_self) (fun e => List.mem_cons_of_mem _ (ih e))

theorem holds_iff {t : Thread} {p : Nat} : t.holds p = true ↔ ∃ m, (p, m) ∈ t.held := by
  simp only [Thread.holds, List.any_eq_true, beq_iff_eq, Prod.exists, exists_and_right, exists_eq_right]

theorem holdsW_iff {t : Thread} {p : Nat} : t.holdsW p = true ↔ (p, Mode.W) ∈ t.held := by
  simp only [Thread.holdsW, List.any_eq_true, Bool.and_eq_true, beq_iff_eq, Prod.exists, exists_eq_right_right,
    exists_eq_right]

theorem parkedW_iff {t : Thread} {p : Nat} :
    t.parkedW p = true ↔ t.waiting = true ∧ ∃ rest, t.prog = .acq p .W :: rest := by
  rcases t with ⟨_ | ⟨i, rest⟩, held, pg, w⟩
  · simp [Thread.parkedW]
  · cases i with
    | acq q m => cases m <;> simp [Thread.parkedW]
    | _ => simp [Thread.parkedW]

theorem mem_pages {held : List (Nat × Mode)} {q : Nat} : q ∈ pages held ↔ ∃ m, (q, m) ∈ held := by
  simp only [pages, List.mem_map, Prod.exists, exists_and_right, exists_eq_right]

theorem step_some {s s' : State} {i : Nat} (h : step D s i = some s') :
    ∃ t, s[i]? = some t ∧ enabled D s t = true ∧ s' = s.set i (advance t) := by
  revert h
  fun_cases step D s i with
  | case2 t ht he => exact fun h => ⟨t, ht, he, (Option.some.inj h).symm⟩
  | _ => exact nofun

theorem disabled_cases {s : State} {t : Thread} (h : enabled D s t = false) :
    t.prog = [] ∨ (∃ rest, t.prog = .lockPager :: rest ∧ ∃ u ∈ s, u.pager = true) ∨
    (∃ p m rest, t.prog = .acq p m :: rest ∧ t.waiting = true ∧ grantable D s p m = false) := by
  revert h
  fun_cases enabled D s t with
  | case1 hp => exact fun _ => .inl hp
  | case2 rest hp =>
    intro h
    obtain ⟨u, hu, hup⟩ := List.all_eq_false.1 h
    exact .inr (.inl ⟨rest, hp, u, hu, by simpa using hup⟩)
  | case4 p m rest hp hw => exact fun h => .inr (.inr ⟨p, m, rest, hp, hw, h⟩)
  | _ => exact nofun

theorem held_advance {t : Thread} {h : Nat × Mode} (hm : h ∈ (advance t).held) :
    h ∈ t.held ∨ (t.waiting = true ∧ ∃ rest, t.prog = .acq h.1 h.2 :: rest) := by
  revert hm
  fun_cases advance t with
  | case4 p m rest hp hw => exact fun hm => (List.mem_cons.1 hm).elim (fun e => .inr ⟨hw, rest, e ▸ hp⟩) .inl
  | case6 p rest hp => exact fun hm => .inl (mem_relOne hm)
  | case7 rest hp => exact nofun
  | _ => exact .inl

theorem grantable_compat {s : State} {p : Nat} {m mu : Mode} {u : Thread} (h : grantable D s p m = true) (hu : u ∈ s)
    (hh : (p, mu) ∈ u.held) : m = .R ∧ mu = .R := by
  cases m with
  | W =>
    have := List.all_eq_true.1 h u hu
    rw [Bool.not_eq_true', ← Bool.not_eq_true, holds_iff] at this
    exact (this ⟨mu, hh⟩).elim
  | R =>
    cases mu with
    | R => exact ⟨rfl, rfl⟩
    | W =>
      have := List.all_eq_true.1 h u hu
      rw [Bool.and_eq_true, Bool.not_eq_true', ← Bool.not_eq_true, holdsW_iff] at this
      exact (this.1 hh).elim

theorem not_grantable {s : State} {p : Nat} {m : Mode} (h : grantable D s p m = false) :
    ∃ u ∈ s, (∃ mu, (p, mu) ∈ u.held ∧ (m = .W ∨ mu = .W)) ∨
      (D.readLatchQueuesBehindWriter = true ∧ m = .R ∧ ∃ rest, u.prog = .acq p .W :: rest) := by
  cases m with
  | W =>
    obtain ⟨u, hu, hb⟩ := List.all_eq_false.1 h
    rw [Bool.not_eq_true, Bool.not_eq_false', holds_iff] at hb
    obtain ⟨mu, hmu⟩ := hb
    exact ⟨u, hu, Or.inl ⟨mu, hmu, Or.inl rfl⟩⟩
  | R =>
    obtain ⟨u, hu, hb⟩ := List.all_eq_false.1 h
    refine ⟨u, hu, ?_⟩
    cases hW : u.holdsW p with
    | true => exact Or.inl ⟨.W, holdsW_iff.1 hW, Or.inr rfl⟩
    | false =>
      rw [hW, Bool.not_false, Bool.true_and, Bool.not_eq_true, Bool.not_eq_false', Bool.and_eq_true, parkedW_iff] at hb
      exact Or.inr ⟨hb.1, rfl, hb.2.2⟩

theorem reach_forall {P : Thread → Prop} {progs : List (List Instr)}
    (h0 : ∀ pr ∈ progs, P (Thread.start pr))
    (hstep : ∀ (t : Thread), P t → P (advance t))
    {s : State} (hr : Reachable D (init progs) s) : ∀ t ∈ s, P t := by
  induction hr with
  | init =>
    intro t ht
    obtain ⟨pr, hpr, rfl⟩ := List.mem_map.1 ht
    exact h0 pr hpr
  | step _ hs ih =>
    obtain ⟨t, hi, _, rfl⟩ := step_some hs
    intro u hu
    rcases List.mem_or_eq_of_mem_set hu with h | h
    · exact ih u h
    · exact h ▸ hstep t (ih t (List.mem_of_getElem? hi))

theorem reach_pagerOk {progs : List (List Instr)} (h0 : ∀ pr ∈ progs, pagerOk false pr = true)
    {s : State} (hr : Reachable D (init progs) s) :
    ∀ t ∈ s, pagerOk t.pager t.prog = true ∧ WaitOk t := by
  refine reach_forall (fun pr hpr => ⟨h0 pr hpr, fun h => nomatch h⟩) ?_ hr
  rintro ⟨prog, held, pg, w⟩ ⟨h1, h2⟩
  have hw : ∀ {pr held pg}, WaitOk ⟨pr, held, pg, false⟩ := fun h => nomatch h
  -- with the flag and the head instruction known, `h1` computes to `false = true` or to `pagerOk` of the rest
  cases w with
  | true =>
    obtain ⟨p, m, rest, rfl⟩ := h2 rfl
    cases pg
    · exact ⟨h1, hw⟩
    · cases h1
  | false =>
    rcases prog with _ | ⟨i, rest⟩
    · exact ⟨h1, h2⟩
    · cases i with
      | acq p m => exact ⟨h1, fun _ => ⟨p, m, rest, rfl⟩⟩
      | _ => cases pg <;> first | cases h1 | exact ⟨h1, hw⟩

theorem reach_noW {progs : List (List Instr)} (h0 : ∀ pr ∈ progs, noW pr = true)
    {s : State} (hr : Reachable D (init progs) s) :
    ∀ t ∈ s, noW t.prog = true ∧ (∀ q, (q, Mode.W) ∉ t.held) := by
  refine reach_forall (fun pr hpr => ⟨h0 pr hpr, fun _ h => nomatch h⟩) ?_ hr
  intro t ⟨h1, h2⟩
  constructor
  · rcases t with ⟨_ | ⟨i, rest⟩, held, pg, w⟩
    · exact h1
    · cases i with
      | acq p m => cases w <;> cases m <;> first | exact h1 | cases h1
      | _ => exact h1
  · intro q hq
    rcases held_advance hq with h | ⟨_, rest, hp⟩
    · exact h2 q h
    · rw [hp] at h1; cases h1

theorem reach_guarded {progs : List (List Instr)} (h0 : ∀ pr ∈ progs, Guarded D rootOf [] pr)
    {s : State} (hr : Reachable D (init progs) s) : ∀ t ∈ s, Guarded D rootOf t.held t.prog := by
  refine reach_forall h0 ?_ hr
  rintro ⟨_ | ⟨i, rest⟩, held, pg, w⟩ h
  · exact h
  · cases i with
    | lockPager => exact guarded_lockPager.1 h
    | unlockPager => exact guarded_unlockPager.1 h
    | acq p m => cases w; exact h; exact (guarded_acq.1 h).2
    | rel p => exact guarded_rel.1 h
    | relAll => exact guarded_relAll.1 h

def Mutex (s : State) : Prop :=
  ∀ (i j : Nat) (a b : Thread) (q : Nat) (m : Mode), s[i]? = some a → s[j]? = some b → (q, Mode.W) ∈ a.held →
    (q, m) ∈ b.held → i = j

theorem mutex_step {s s' : State} {i : Nat} (hm : Mutex s) (hs : step D s i = some s') : Mutex s' := by
  obtain ⟨t, hi, he, rfl⟩ := step_some hs
  have hlt : i < s.length := (List.getElem?_eq_some_iff.1 hi).1
  have hnew : ∀ h ∈ (advance t).held, h ∈ t.held ∨ ∀ u ∈ s, ∀ mu, (h.1, mu) ∈ u.held → h.2 = .R ∧ mu = .R := by
    intro h hh
    refine (held_advance hh).imp_right fun ⟨hw, rest, hp⟩ u hu mu hmu => ?_
    rcases t with ⟨prog, held, pg, w⟩
    subst hw hp
    exact grantable_compat he hu hmu
  intro j k a b q m hj hk hq hb
  by_cases ej : j = i <;> by_cases ek : k = i
  · exact ej.trans ek.symm
  · subst ej
    rw [List.getElem?_set_self hlt] at hj
    rw [List.getElem?_set_ne (Ne.symm ek)] at hk
    cases hj
    rcases hnew _ hq with hold | hgr
    · exact hm _ _ _ _ _ _ hi hk hold hb
    · exact nomatch (hgr b (List.mem_of_getElem? hk) m hb).1
  · subst ek
    rw [List.getElem?_set_self hlt] at hk
    rw [List.getElem?_set_ne (Ne.symm ej)] at hj
    cases hk
    rcases hnew _ hb with hold | hgr
    · exact hm _ _ _ _ _ _ hj hi hq hold
    · exact nomatch (hgr a (List.mem_of_getElem? hj) .W hq).2
  · rw [List.getElem?_set_ne (Ne.symm ej)] at hj
    rw [List.getElem?_set_ne (Ne.symm ek)] at hk
    exact hm _ _ _ _ _ _ hj hk hq hb

theorem reach_mutex {progs : List (List Instr)} {s : State} (hr : Reachable D (init progs) s) : Mutex s := by
  induction hr with
  | init =>
    intro i _ a _ q _ hi _ hq _
    obtain ⟨pr, _, rfl⟩ := List.mem_map.1 (List.mem_of_getElem? hi)
    cases hq
  | step _ hs ih => exact mutex_step ih hs

theorem Mutex.eq {s : State} (hm : Mutex s) {a b : Thread} (ha : a ∈ s) (hb : b ∈ s) {g g' : Nat × Mode}
    (hg : g ∈ a.held) (hg' : g' ∈ b.held) (hp : g.1 = g'.1) (hw : g.2 = .W ∨ g'.2 = .W) : a = b := by
  obtain ⟨i, hi⟩ := List.mem_iff_getElem?.1 ha
  obtain ⟨j, hj⟩ := List.mem_iff_getElem?.1 hb
  obtain ⟨q, m⟩ := g
  obtain ⟨q', m'⟩ := g'
  simp only at hp hw
  subst hp
  have : i = j := by
    rcases hw with rfl | rfl
    · exact hm i j a b q m' hi hj hg hg'
    · exact (hm j i b a q m hj hi hg' hg).symm
  subst this
  exact Option.some.inj (hi.symm.trans hj)

theorem deadlocked_iff {s : State} :
    deadlocked D s = true ↔ (∃ t ∈ s, t.prog ≠ []) ∧ ∀ t ∈ s, enabled D s t = false := by
  simp only [deadlocked, Thread.finished, Bool.and_eq_true, List.any_eq_true, List.all_eq_true, Bool.not_eq_true',
    List.isEmpty_eq_false_iff, ne_eq]

theorem not_deadlocked_of_enabled {s : State} {t : Thread} (ht : t ∈ s) (he : enabled D s t = true) :
    deadlocked D s = false :=
  Bool.eq_false_iff.2 fun hd => Bool.noConfusion ((deadlocked_iff.1 hd).2 t ht ▸ he)

theorem pager_holder_enabled {s : State} {t : Thread} (h : pagerOk t.pager t.prog = true) (hp : t.pager = true) :
    enabled D s t = true := by
  rcases t with ⟨_ | ⟨i, rest⟩, held, pg, w⟩ <;> subst hp
  · cases h
  · cases i <;> first | rfl | cases h

theorem parked_of_deadlocked {s : State} (hall : ∀ t ∈ s, pagerOk t.pager t.prog = true ∧ WaitOk t)
    (hd : deadlocked D s = true) :
    (∃ t ∈ s, t.prog ≠ []) ∧
      ∀ t ∈ s, t.prog ≠ [] → ∃ p m rest, t.prog = .acq p m :: rest ∧ grantable D s p m = false := by
  obtain ⟨hex, hdead⟩ := deadlocked_iff.1 hd
  refine ⟨hex, fun t ht hne => ?_⟩
  rcases disabled_cases (hdead t ht) with h | ⟨_, _, u, hu, hup⟩ | ⟨p, m, rest, hp, _, hg⟩
  · exact (hne h).elim
  · -- the thread that holds the pager lock could move
    exact Bool.noConfusion ((hdead u hu).symm.trans (pager_holder_enabled (hall u hu).1 hup))
  · exact ⟨p, m, rest, hp, hg⟩

/-- **Readers only**: a refused request needs a write guard or a parked writer, and there is neither. -/
theorem readers_only_no_deadlock {progs : List (List Instr)}
    (hp : ∀ pr ∈ progs, pagerOk false pr = true) (hw : ∀ pr ∈ progs, noW pr = true)
    {s : State} (hr : Reachable D (init progs) s) : deadlocked D s = false := by
  refine Bool.eq_false_iff.2 fun hd => ?_
  obtain ⟨⟨t, ht, hne⟩, hpark⟩ := parked_of_deadlocked (reach_pagerOk hp hr) hd
  have hn := reach_noW hw hr
  obtain ⟨p, m, rest, hprog, hg⟩ := hpark t ht hne
  obtain ⟨u, hu, ⟨mu, hmu, rfl | rfl⟩ | ⟨_, _, r, hpu⟩⟩ := not_grantable hg
  · have := (hn t ht).1
    rw [hprog] at this; cases this
  · exact (hn u hu).2 p hmu
  · have := (hn u hu).1
    rw [hpu] at this; cases this

/-- **Key lemma.**  In a state where every thread that holds a latch is at a request (its hands are then `Closed`), a
    parked thread whose request is not granted holds nothing.  Otherwise it holds the root of `p`'s tree; so does whoever
    is in its way, and one of the two holds it for writing. -/
theorem parked_holds_nothing {s : State} (hg : ∀ t ∈ s, Guarded D rootOf t.held t.prog) (hm : Mutex s)
    (hat : ∀ u ∈ s, u.held ≠ [] → ∃ q mq r, u.prog = .acq q mq :: r)
    {t : Thread} (ht : t ∈ s) {p : Nat} {m : Mode} {rest : List Instr}
    (hprog : t.prog = .acq p m :: rest) (hgr : grantable D s p m = false) : t.held = [] := by
  have hacq : ∀ u ∈ s, ∀ q mq r, u.prog = .acq q mq :: r → AcqOk D rootOf u.held q mq := by
    intro u hu q mq r hp
    have := hg u hu
    rw [hp] at this
    exact (guarded_acq.1 this).1
  rcases (hacq t ht p m rest hprog).2 with h | ⟨⟨g, hgm, hg1, hg2⟩, hnp, hnw, hroot⟩
  · exact h.1
  · exfalso
    obtain ⟨u, hu, ⟨mu, hmu, hc⟩ | ⟨hD, rfl, r, hpu⟩⟩ := not_grantable hgr
    · -- `u` holds `p`, hence (closed hands) the root
      obtain ⟨q, mq, r, hpu⟩ := hat u hu (List.ne_nil_of_mem hmu)
      obtain ⟨g', hgm', hg1', hg2'⟩ := (hacq u hu q mq r hpu).1 (p, mu) hmu
      have : t = u := hm.eq ht hu hgm hgm' (hg1.trans hg1'.symm) (hc.imp hg2 hg2')
      subst this
      exact hc.elim (fun h => hnp h (mem_pages.2 ⟨mu, hmu⟩)) (fun h => hnw (h ▸ hmu))
    · -- `u` is parked for the write latch of `p`
      rcases (hacq u hu p .W r hpu).2 with ⟨_, h | h⟩ | ⟨⟨g', hgm', hg1', hg2'⟩, _⟩
      · exact Bool.noConfusion ((hroot h).symm.trans hD)
      · cases h
      · have : t = u := hm.eq ht hu hgm hgm' (hg1.trans hg1'.symm) (Or.inr (hg2' rfl))
        subst this
        exact nomatch hprog.symm.trans hpu

theorem guarded_no_deadlock {progs : List (List Instr)}
    (hp : ∀ pr ∈ progs, pagerOk false pr = true) (h0 : ∀ pr ∈ progs, Guarded D rootOf [] pr)
    {s : State} (hr : Reachable D (init progs) s) : deadlocked D s = false := by
  refine Bool.eq_false_iff.2 fun hd => ?_
  obtain ⟨⟨t, ht, hne⟩, hpark⟩ := parked_of_deadlocked (reach_pagerOk hp hr) hd
  have hg := reach_guarded h0 hr
  -- a thread that holds something has work left (`Guarded _ []` is "empty hands"), so it is parked
  have hat : ∀ u ∈ s, u.held ≠ [] → ∃ q mq r, u.prog = .acq q mq :: r ∧ grantable D s q mq = false := by
    intro u hu hh
    refine hpark u hu fun hnil => hh ?_
    have := hg u hu
    rw [hnil] at this
    exact guarded_nil.1 this
  -- hence nobody holds anything
  have hempty : ∀ u ∈ s, u.held = [] := by
    intro u hu
    refine Classical.byContradiction fun hh => hh ?_
    obtain ⟨q, mq, r, hpu, hgu⟩ := hat u hu hh
    exact parked_holds_nothing hg (reach_mutex hr)
      (fun v hv hv' => let ⟨q, mq, r, h, _⟩ := hat v hv hv'; ⟨q, mq, r, h⟩) hu hpu hgu
  -- so only a parked writer can be in the way of `t`, and nothing is in the way of that writer
  have hfree : ∀ u ∈ s, ∀ q mq r, u.prog = .acq q mq :: r → mq = .R ∧ ∃ v ∈ s, ∃ r', v.prog = .acq q .W :: r' := by
    intro u hu q mq r hpu
    obtain ⟨q', mq', r', hpu', hgu⟩ := hpark u hu (by rw [hpu]; exact List.cons_ne_nil _ _)
    cases hpu.symm.trans hpu'
    obtain ⟨v, hv, ⟨mv, hmv, _⟩ | ⟨_, hR, r', hpv⟩⟩ := not_grantable hgu
    · rw [hempty v hv] at hmv; cases hmv
    · exact ⟨hR, v, hv, r', hpv⟩
  obtain ⟨p, m, rest, hprog, _⟩ := hpark t ht hne
  obtain ⟨_, v, hv, r', hpv⟩ := hfree t ht p m rest hprog
  exact nomatch (hfree v hv p .W r' hpv).1

theorem rowReads_eq (leaf n : Nat) : rowReads leaf n = readerDescent (List.replicate n leaf) := by
  induction n with
  | zero => rfl
  | succ n ih => exact congrArg (fetch leaf .R ++ [.rel leaf] ++ ·) ih

/-- `P` holds of the pieces the shapes are made of (with latches taken in mode `m`) and of concatenations of programs it
    holds of — hence of every shape, whatever pages it names. -/
structure Modular (m : Mode) (P : List Instr → Prop) : Prop where
  nil : P []
  append : ∀ {a b}, P a → P b → P (a ++ b)
  fetch : ∀ p, P (fetch p m)
  rel : ∀ p, P [.rel p]
  relAll : P [.relAll]
  pager : P [.lockPager, .unlockPager]

namespace Modular
variable {m : Mode} {P : List Instr → Prop}

theorem fetchNew_ok (h : Modular m P) (ps have_ : List Nat) : P (fetchNew m ps have_) := by
  fun_induction fetchNew m ps have_ with
  | case1 => exact h.nil
  | case2 p ps have_ hhas ih => exact ih
  | case3 p ps have_ hnew ih => exact h.append (h.fetch p) ih

theorem readerDescent_ok (h : Modular .R P) (ps : List Nat) : P (readerDescent ps) := by
  induction ps with
  | nil => exact h.nil
  | cons p ps ih => exact h.append (h.append (h.fetch p) (h.rel p)) ih

theorem leafWalk_ok (h : Modular .R P) (root : Nat) (ls : List (Nat × Nat)) : P (leafWalk root ls) := by
  induction ls with
  | nil => exact h.nil
  | cons l rest ih =>
    obtain ⟨leaf, rows⟩ := l
    unfold leafWalk
    refine h.append (h.append (h.append ?_ (rowReads_eq leaf rows ▸ h.readerDescent_ok _)) ?_) ih
    · split
      · exact h.nil
      · exact h.fetch leaf
    · split
      · exact h.nil
      · exact h.rel leaf

theorem readerScan_ok (h : Modular .R P) (root : Nat) (path : List Nat) (leaves : List (Nat × Nat)) :
    P (readerScan root path leaves) :=
  h.append (h.append (h.append (h.append (h.readerDescent_ok _) (h.fetch root)) (h.readerDescent_ok _)) (h.leafWalk_ok root leaves))
    h.relAll

theorem readerSearch_ok (h : Modular .R P) (root : Nat) (path : List Nat) : P (readerSearch root path) :=
  h.append (h.fetchNew_ok _ _) h.relAll

theorem balInstrs_ok (h : Modular .W P) (bal : List BalStep) (have_ : List Nat) : P (balInstrs bal have_) := by
  fun_induction balInstrs bal have_ with
  | case1 => exact h.nil
  | case2 p rest have_ hhas ih => exact ih
  | case3 p rest have_ hnew ih => exact h.append (h.fetch p) ih
  | case4 p rest have_ ih => exact h.append (h.append (h.rel p) h.pager) ih
  | case5 rest have_ ih => exact h.append h.pager ih

theorem writerOp_ok (h : Modular .W P) (root : Nat) (path : List Nat) (bal : List BalStep) : P (writerOp root path bal) :=
  h.append (h.append (h.fetchNew_ok _ _) (h.balInstrs_ok _ _)) h.relAll

end Modular

theorem pagerOk_append {a b : List Instr} {pg : Bool} (ha : pagerOk pg a = true) (hb : pagerOk false b = true) :
    pagerOk pg (a ++ b) = true := by
  induction a generalizing pg with
  | nil => cases pg; exact hb; cases ha
  | cons i rest ih =>
    -- with the head and the flag known, `ha` computes to `false = true` or to `pagerOk` of the rest, like the goal
    cases i <;> cases pg <;> first | cases ha | exact ih ha

theorem noW_append {a b : List Instr} (ha : noW a = true) (hb : noW b = true) : noW (a ++ b) = true := by
  induction a with
  | nil => exact hb
  | cons i rest ih =>
    cases i with
    | acq p m => cases m; exact ih ha; cases ha
    | _ => exact ih ha

theorem pagerOk_modular (m : Mode) : Modular m (pagerOk false · = true) :=
  ⟨rfl, pagerOk_append, fun _ => rfl, fun _ => rfl, rfl, rfl⟩

theorem noW_modular : Modular .R (noW · = true) :=
  ⟨rfl, noW_append, fun _ => rfl, fun _ => rfl, rfl, rfl⟩

/-! Each `guarded_…` lemma for a shape has the form "if the rest of the program is fine from the hands the shape leaves,
the shape followed by the rest is fine from the hands it starts with". -/

section guardedShapes
variable {r p : Nat} {m : Mode} {held : List (Nat × Mode)} {rest : List Instr}

theorem acqOk_nil (h : rootOf p = p ∨ m = .R) : AcqOk D rootOf [] p m :=
  ⟨nofun, Or.inl ⟨rfl, h⟩⟩

theorem relOne_self : relOne p ((p, m) :: held) = held := by
  simp only [relOne, beq_self_eq_true, if_true]

structure TreeHeld (rootOf : Nat → Nat) (r : Nat) (m : Mode) (held : List (Nat × Mode)) : Prop where
  all : ∀ h ∈ held, h.2 = m ∧ rootOf h.1 = r
  root : (r, m) ∈ held
  nodup : (pages held).Nodup

theorem TreeHeld.single (hrr : rootOf r = r) : TreeHeld rootOf r m [(r, m)] :=
  ⟨fun _ hh => List.eq_of_mem_singleton hh ▸ ⟨rfl, hrr⟩, List.mem_singleton.2 rfl,
    List.nodup_cons.2 ⟨List.not_mem_nil, List.nodup_nil⟩⟩

theorem TreeHeld.cons (hT : TreeHeld rootOf r m held) (hp : rootOf p = r) (hnp : p ∉ pages held) :
    TreeHeld rootOf r m ((p, m) :: held) :=
  ⟨fun _ hh => (List.mem_cons.1 hh).elim (fun e => e ▸ ⟨rfl, hp⟩) (hT.all _), List.mem_cons_of_mem _ hT.root,
    List.nodup_cons.2 ⟨hnp, hT.nodup⟩⟩

theorem acqOk_tree (hT : TreeHeld rootOf r m held) (hp : rootOf p = r)
    (hnew : p ∉ pages held ∨ (m = .R ∧ (p = r → D.readLatchQueuesBehindWriter = false))) :
    AcqOk D rootOf held p m := by
  refine ⟨fun h hh => ⟨(r, m), hT.root, (hT.all h hh).2.symm, fun hw => (hT.all h hh).1.symm.trans hw⟩,
    Or.inr ⟨⟨(r, m), hT.root, hp.symm, id⟩, ?_, ?_, ?_⟩⟩
  · exact fun hw => hnew.elim id fun h => nomatch h.1.symm.trans hw
  · exact fun hc => hnew.elim (fun h => h (mem_pages.2 ⟨_, hc⟩)) fun h => nomatch h.1.symm.trans (hT.all _ hc).1.symm
  · intro hpp
    have hpr : p = r := hpp.symm.trans hp
    exact hnew.elim (fun h => (h (hpr ▸ mem_pages.2 ⟨m, hT.root⟩)).elim) fun h => h.2 hpr

/-- pages read one after the other, each released before the next is fetched: the hands are the same at every request -/
theorem guarded_readerDescent (hrest : Guarded D rootOf held rest) {ps : List Nat}
    (h : ∀ p ∈ ps, AcqOk D rootOf held p .R) : Guarded D rootOf held (readerDescent ps ++ rest) := by
  induction ps with
  | nil => exact hrest
  | cons p ps ih =>
    show Guarded D rootOf held ((fetch p .R ++ [.rel p] ++ readerDescent ps) ++ rest)
    rw [List.append_assoc, List.append_assoc]
    refine guarded_fetch.2 ⟨h p List.mem_cons_self, guarded_rel.2 ?_⟩
    rw [relOne_self]
    exact ih fun q hq => h q (List.mem_cons_of_mem _ hq)

def pathIn (rootOf : Nat → Nat) (r : Nat) (ps : List Nat) : Bool :=
  rootOf r == r && ps.all (fun q => rootOf q == r)

/-- false under the defect (read latches that queue behind a parked writer), whatever the pages: a scan latches the root
    through two accessors -/
def leavesIn (D : Defects) (rootOf : Nat → Nat) (r : Nat) (path : List Nat) (ls : List (Nat × Nat)) : Bool :=
  rootOf r == r && !D.readLatchQueuesBehindWriter && path.all (fun p => rootOf p == r && p != r) &&
    ls.all (fun l => rootOf l.1 == r)

/-- the iterator holds the root; per leaf: the rows are read through a second accessor under the leaf's guard — for a
    one-page table that is a second read guard of the root -/
theorem guarded_leafWalk (hrr : rootOf r = r) (hrest : Guarded D rootOf [(r, .R)] rest) {ls : List (Nat × Nat)}
    (hls : ∀ l ∈ ls, rootOf l.1 = r ∧ (l.1 = r → D.readLatchQueuesBehindWriter = false)) :
    Guarded D rootOf [(r, .R)] (leafWalk r ls ++ rest) := by
  have hT : TreeHeld rootOf r .R [(r, .R)] := .single hrr
  induction ls with
  | nil => exact hrest
  | cons l more ih =>
    obtain ⟨leaf, rows⟩ := l
    obtain ⟨hl, hD⟩ := hls _ List.mem_cons_self
    have ih := ih fun l hl' => hls l (List.mem_cons_of_mem _ hl')
    unfold leafWalk
    rw [rowReads_eq]
    by_cases hne : leaf = r
    · simp only [hne, if_true, List.nil_append, List.append_nil, List.append_assoc]
      refine guarded_readerDescent ih fun q hq => ?_
      rw [List.eq_of_mem_replicate hq]
      exact acqOk_tree hT hrr (.inr ⟨rfl, fun _ => hD hne⟩)
    · have hnp : leaf ∉ pages [(r, Mode.R)] := fun h => hne (List.mem_singleton.1 h)
      simp only [hne, if_false, List.append_assoc]
      refine guarded_fetch.2 ⟨acqOk_tree hT hl (.inl hnp), guarded_readerDescent (guarded_rel.2 ?_) fun q hq => ?_⟩
      · rw [relOne_self]
        exact ih
      · rw [List.eq_of_mem_replicate hq]
        exact acqOk_tree (hT.cons hl hnp) hl (.inr ⟨rfl, fun e => (hne e).elim⟩)

theorem guarded_readerScan {path : List Nat} {leaves : List (Nat × Nat)}
    (h : leavesIn D rootOf r path leaves = true) (hrest : Guarded D rootOf [] rest) :
    Guarded D rootOf [] (readerScan r path leaves ++ rest) := by
  simp only [leavesIn, Bool.and_eq_true, beq_iff_eq, List.all_eq_true, bne_iff_ne, ne_eq, Bool.not_eq_true'] at h
  obtain ⟨⟨⟨hrr, hD⟩, hpath⟩, hls⟩ := h
  have hT : TreeHeld rootOf r .R [(r, .R)] := .single hrr
  unfold readerScan
  rw [List.append_assoc, List.append_assoc, List.append_assoc, List.append_assoc]
  refine guarded_readerDescent (guarded_fetch.2 ⟨acqOk_nil (.inr rfl), ?_⟩) fun _ _ => acqOk_nil (.inr rfl)
  refine guarded_readerDescent (guarded_leafWalk hrr (guarded_relAll.2 hrest) fun l hl => ⟨hls l hl, fun _ => hD⟩)
    fun q hq => ?_
  exact acqOk_tree hT (hpath q hq).1 (.inr ⟨rfl, fun e => ((hpath q hq).2 e).elim⟩)

/-- `Btree::acquire_with_accessor` with the root in hand: a page of the tree is fetched unless the accessor has it already; either
    way the hands stay within the tree and `have_` goes on listing them.  `k` is what follows, given the new `have_`. -/
theorem guarded_touch {have_ : List Nat} {k : List Nat → List Instr} (hT : TreeHeld rootOf r m held)
    (hhave : ∀ q, q ∈ have_ ↔ q ∈ pages held) (hp : rootOf p = r)
    (hk : ∀ held' have', TreeHeld rootOf r m held' → (∀ q, q ∈ have' ↔ q ∈ pages held') →
      (∀ q, q ∈ pages held' ↔ q = p ∨ q ∈ pages held) → Guarded D rootOf held' (k have' ++ rest)) :
    Guarded D rootOf held ((if have_.contains p then k have_ else fetch p m ++ k (p :: have_)) ++ rest) := by
  split
  · rename_i hc
    have hpm : p ∈ pages held := (hhave p).1 (List.contains_iff_mem.1 hc)
    exact hk held have_ hT hhave fun q => ⟨Or.inr, fun h => h.elim (fun e => e ▸ hpm) id⟩
  · rename_i hc
    have hnp : p ∉ pages held := fun h => hc (List.contains_iff_mem.2 ((hhave p).2 h))
    rw [List.append_assoc]
    refine guarded_fetch.2 ⟨acqOk_tree hT hp (.inl hnp), hk _ _ (hT.cons hp hnp) (fun q => ?_) fun q => List.mem_cons⟩
    rw [List.mem_cons, hhave q]
    exact List.mem_cons.symm

theorem guarded_fetchNew {ps : List Nat} {have_ : List Nat} (hT : TreeHeld rootOf r m held)
    (hhave : ∀ q, q ∈ have_ ↔ q ∈ pages held) (hps : ∀ q ∈ ps, rootOf q = r)
    (hk : ∀ held', TreeHeld rootOf r m held' → (∀ q, q ∈ pages held' ↔ q ∈ ps ∨ q ∈ pages held) →
      Guarded D rootOf held' rest) :
    Guarded D rootOf held (fetchNew m ps have_ ++ rest) := by
  induction ps generalizing held have_ with
  | nil => exact hk held hT fun q => ⟨Or.inr, fun h => h.elim (fun h => nomatch h) id⟩
  | cons p ps ih =>
    refine guarded_touch (k := fetchNew m ps) hT hhave (hps p List.mem_cons_self) fun held' have' hT' hhave' hpages => ?_
    refine ih hT' hhave' (fun q hq => hps q (List.mem_cons_of_mem _ hq)) fun held'' hT'' hiff => hk held'' hT'' fun q => ?_
    rw [hiff q, hpages q, List.mem_cons, or_left_comm, or_assoc]

theorem guarded_readerSearch {path : List Nat} (h : pathIn rootOf r path = true) (hrest : Guarded D rootOf [] rest) :
    Guarded D rootOf [] (readerSearch r path ++ rest) := by
  simp only [pathIn, Bool.and_eq_true, beq_iff_eq, List.all_eq_true] at h
  show Guarded D rootOf [] ((fetch r .R ++ fetchNew .R path [r]) ++ [.relAll] ++ rest)
  rw [List.append_assoc, List.append_assoc]
  exact guarded_fetch.2 ⟨acqOk_nil (.inl h.1),
    guarded_fetchNew (.single h.1) (fun _ => Iff.rfl) h.2 fun _ _ _ => guarded_relAll.2 hrest⟩

theorem relOne_eq_filter (hnd : (pages held).Nodup) : relOne p held = held.filter (·.1 != p) := by
  revert hnd
  fun_induction relOne p held with
  | case1 => exact fun _ => rfl
  | case2 x xs hx =>
    -- the guard at the head goes; no other is on that page
    intro hnd
    obtain ⟨hnx, -⟩ := List.nodup_cons.1 hnd
    rw [List.filter_cons_of_neg (by simpa using hx)]
    exact (List.filter_eq_self.2 fun y hy => bne_iff_ne.2 fun ey =>
      hnx (List.mem_map.2 ⟨y, hy, ey.trans (beq_iff_eq.1 hx).symm⟩)).symm
  | case3 x xs hx ih =>
    intro hnd
    rw [List.filter_cons_of_pos (by simpa using hx), ih (List.nodup_cons.1 hnd).2]

def balPages : List BalStep → List Nat
  | [] => []
  | .touch p :: rest => p :: balPages rest
  | .free p :: rest => p :: balPages rest
  | .alloc :: rest => balPages rest

/-- only a freed page has to differ from the root (the root must stay in hand); the hypothesis asks it of every page of
    `balPages` because that is what `writeIn` provides: `balPages` does not tell touched from freed pages -/
theorem guarded_balInstrs (hrest : Guarded D rootOf [] rest) {bal : List BalStep} {have_ : List Nat}
    (hT : TreeHeld rootOf r .W held) (hhave : ∀ q, q ∈ have_ ↔ q ∈ pages held)
    (hbp : ∀ q ∈ balPages bal, rootOf q = r ∧ q ≠ r) :
    Guarded D rootOf held (balInstrs bal have_ ++ .relAll :: rest) := by
  induction bal generalizing held have_ with
  | nil => exact guarded_relAll.2 hrest
  | cons b more ih =>
    cases b with
    | touch p =>
      exact guarded_touch (k := balInstrs more) hT hhave (hbp p List.mem_cons_self).1
        fun _ _ hT' hhave' _ => ih hT' hhave' fun q hq => hbp q (List.mem_cons_of_mem _ hq)
    | free p =>
      -- the page goes, the root stays
      have hpr : (r, Mode.W).1 != p := bne_iff_ne.2 fun e => (hbp p List.mem_cons_self).2 e.symm
      have hpg : pages (held.filter (·.1 != p)) = (pages held).filter (· != p) := by
        unfold pages; rw [List.filter_map]; rfl
      refine guarded_rel.2 (guarded_lockPager.2 (guarded_unlockPager.2 ?_))
      rw [relOne_eq_filter hT.nodup]
      refine ih ⟨fun h hh => hT.all h (List.mem_filter.1 hh).1, List.mem_filter.2 ⟨hT.root, hpr⟩,
        (List.filter_sublist.map _).nodup hT.nodup⟩ (fun q => ?_) fun q hq => hbp q (List.mem_cons_of_mem _ hq)
      rw [hpg, List.mem_filter, List.mem_filter, hhave q]
    | alloc => exact guarded_lockPager.2 (guarded_unlockPager.2 (ih hT hhave hbp))

def writeIn (rootOf : Nat → Nat) (r : Nat) (path : List Nat) (bal : List BalStep) : Bool :=
  rootOf r == r && path.all (fun q => rootOf q == r) && (balPages bal).all (fun q => rootOf q == r && q != r)

theorem guarded_writerOp {path : List Nat} {bal : List BalStep} (h : writeIn rootOf r path bal = true)
    (hrest : Guarded D rootOf [] rest) : Guarded D rootOf [] (writerOp r path bal ++ rest) := by
  simp only [writeIn, Bool.and_eq_true, beq_iff_eq, List.all_eq_true, bne_iff_ne, ne_eq] at h
  obtain ⟨⟨hrr, hpath⟩, hbal⟩ := h
  show Guarded D rootOf [] ((fetch r .W ++ fetchNew .W path [r]) ++ balInstrs bal (r :: path) ++ [.relAll] ++ rest)
  rw [List.append_assoc, List.append_assoc, List.append_assoc]
  refine guarded_fetch.2 ⟨acqOk_nil (.inl hrr), guarded_fetchNew (.single hrr) (fun _ => Iff.rfl) hpath ?_⟩
  exact fun held' hT' hiff => guarded_balInstrs hrest hT' (fun q => ((hiff q).trans (by simp [pages, or_comm])).symm) hbal

end guardedShapes

end AxVerif.Latch
