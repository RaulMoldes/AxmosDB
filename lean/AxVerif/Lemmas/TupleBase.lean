/-
  Helper lemmas for the tuple model, part 1: alignment arithmetic, bytes standing at an offset (`At`), little-endian
  integers, the blob length prefix, null bitmaps, one value (`deser ∘ emitVal`).
-/
import AxVerif.Model.Tuple
import AxVerif.Lemmas.Bytes
namespace AxVerif.Tuple
open AxVerif

/- Core has no `DecidableEq (Except ε α)`; the witnesses and examples of C18 decide equations between results of the
   model (`R α = Except Fail α`).  (Model/Value.lean has an instance of its own; the tuple files do not import it.) -/
deriving instance DecidableEq for Except

def AlignOk (a : Nat) : Prop := a = 1 ∨ a = 2 ∨ a = 4 ∨ a = 8

instance (a : Nat) : Decidable (AlignOk a) := inferInstanceAs (Decidable (a = 1 ∨ a = 2 ∨ a = 4 ∨ a = 8))

theorem AlignOk.pos {a : Nat} (h : AlignOk a) : 0 < a := by
  rcases h with rfl | rfl | rfl | rfl <;> decide

theorem AlignOk.dvd8 {a : Nat} (h : AlignOk a) : a ∣ 8 := by
  rcases h with rfl | rfl | rfl | rfl <;> decide

theorem alignUp_ge {c a : Nat} (h : 0 < a) : c ≤ alignUp c a :=
  Nat.le_of_add_le_add_right (Nat.le_of_pred_lt (Nat.lt_div_mul_add (a := c + a - 1) h))

theorem alignUp_lt {c a : Nat} (h : 0 < a) : alignUp c a < c + a :=
  Nat.lt_of_le_of_lt (Nat.div_mul_le_self _ _) (Nat.sub_lt (Nat.add_pos_right c h) Nat.one_pos)

theorem dvd_alignUp (c a : Nat) : a ∣ alignUp c a := Nat.dvd_mul_left a _

theorem alignUp_shift {b r a : Nat} (h : 0 < a) (hb : a ∣ b) : alignUp (b + r) a = b + alignUp r a := by
  obtain ⟨q, rfl⟩ := hb
  unfold alignUp
  rw [Nat.add_sub_assoc h, Nat.add_sub_assoc h, Nat.add_assoc, Nat.add_comm (a * q), Nat.add_mul_div_left _ _ h,
    Nat.add_mul, Nat.mul_comm q a, Nat.add_comm]

theorem alignUp_of_dvd {c a : Nat} (h : 0 < a) (hc : a ∣ c) : alignUp c a = c := by
  have := alignUp_shift (r := 0) h hc
  have h0 : alignUp 0 a = 0 := by rw [alignUp, Nat.zero_add, Nat.div_eq_of_lt (Nat.sub_lt h Nat.one_pos), Nat.zero_mul]
  rwa [Nat.add_zero, h0, Nat.add_zero] at this

theorem alignUp_of_dvd8 {c : Nat} (h : 8 ∣ c) : alignUp c 8 = c := alignUp_of_dvd (by decide) h

@[simp] theorem zeros_length (n : Nat) : (zeros n).length = n := List.length_replicate

@[simp] theorem padTo_length (c a : Nat) : (padTo c a).length = alignUp c a - c := zeros_length _

theorem padTo_shift {b r a : Nat} (h : 0 < a) (hb : a ∣ b) : padTo (b + r) a = padTo r a := by
  rw [padTo, alignUp_shift h hb, Nat.add_sub_add_left, padTo]

theorem padTo_of_dvd {c a : Nat} (h : 0 < a) (hc : a ∣ c) : padTo c a = [] := by
  simp only [padTo, alignUp_of_dvd h hc, Nat.sub_self, zeros, List.replicate_zero]

theorem add_padTo_length {c a : Nat} (h : 0 < a) : c + (padTo c a).length = alignUp c a := by
  rw [padTo_length, Nat.add_sub_cancel' (alignUp_ge h)]

theorem add_padTo_append_length {c a : Nat} (h : 0 < a) (x : Bytes) :
    c + (padTo c a ++ x).length = alignUp c a + x.length := by
  rw [List.length_append, ← Nat.add_assoc, add_padTo_length h]

def At (d : Bytes) (o : Nat) (x : Bytes) : Prop := ∃ pre post, d = pre ++ x ++ post ∧ pre.length = o

theorem At.prefix (x post : Bytes) : At (x ++ post) 0 x := ⟨[], post, rfl, rfl⟩

theorem At.self (d : Bytes) : At d 0 d := ⟨[], [], (List.append_nil d).symm, rfl⟩

theorem At.left {d : Bytes} {o : Nat} {x y : Bytes} (h : At d o (x ++ y)) : At d o x := by
  obtain ⟨pre, post, rfl, rfl⟩ := h
  exact ⟨pre, y ++ post, by simp only [List.append_assoc], rfl⟩

theorem At.right {d : Bytes} {o : Nat} {x y : Bytes} (h : At d o (x ++ y)) : At d (o + x.length) y := by
  obtain ⟨pre, post, rfl, rfl⟩ := h
  exact ⟨pre ++ x, post, by simp only [List.append_assoc], List.length_append⟩

theorem At.tail {d : Bytes} {o : Nat} {b : UInt8} {x : Bytes} (h : At d o (b :: x)) : At d (o + 1) x :=
  At.right (x := [b]) h

theorem At.le {d : Bytes} {o : Nat} {x : Bytes} (h : At d o x) : o + x.length ≤ d.length := by
  obtain ⟨pre, post, rfl, rfl⟩ := h
  simp only [List.length_append]; omega

theorem At.drop {d : Bytes} {o : Nat} {x : Bytes} (h : At d o x) : ∃ post, d.drop o = x ++ post := by
  obtain ⟨pre, post, rfl, rfl⟩ := h
  exact ⟨post, by rw [List.append_assoc, List.drop_left]⟩

theorem At.slice {d : Bytes} {o : Nat} {x : Bytes} (h : At d o x) : slice d o x.length = .ok x := by
  obtain ⟨post, hd⟩ := h.drop
  rw [Tuple.slice, if_pos h.le, hd, List.take_left]

theorem getElem?_append_cons (pre : Bytes) (b : UInt8) (post : Bytes) : (pre ++ b :: post)[pre.length]? = some b := by
  simp

theorem At.getElem? {d : Bytes} {o : Nat} {b : UInt8} {x : Bytes} (h : At d o (b :: x)) : d[o]? = some b := by
  obtain ⟨pre, post, rfl, rfl⟩ := h
  rw [List.append_assoc]
  exact getElem?_append_cons pre b (x ++ post)

theorem At.getByte {d : Bytes} {o : Nat} {b : UInt8} {x : Bytes} (h : At d o (b :: x)) : getByte d o = .ok b := by
  rw [Tuple.getByte, h.getElem?]

theorem rdLE_eq (bs : Bytes) : rdLE bs = rdBytes bs := by
  induction bs with
  | nil => rfl
  | cons b bs ih => rw [rdLE, rdBytes, ih]

theorem rdLE_le64 (n : Nat) (h : n < 2 ^ 64) : rdLE (le64 n) = n := by
  rw [rdLE_eq, le64, rdBytes_append, le32_eq, le32_eq, rdBytes_leBytes 4 _ (Nat.mod_lt _ (by decide)),
    rdBytes_leBytes 4 _ (Nat.div_lt_of_lt_mul h), show (leBytes 4 (n % 4294967296)).length = 4 from rfl]
  exact Nat.mod_add_div n 4294967296

/-! the two `u64` fields in front of both headers, peeled off by `take`/`drop` as the readers do -/

theorem take8_le64 (a : Nat) (rest : Bytes) : (le64 a ++ rest).take 8 = le64 a := List.take_left' (le64_length a)

theorem drop8_le64 (a : Nat) (rest : Bytes) : (le64 a ++ rest).drop 8 = rest := List.drop_left' (le64_length a)

theorem drop16_le64 (a b : Nat) (rest : Bytes) : (le64 a ++ (le64 b ++ rest)).drop 16 = rest := by
  rw [show 16 = 8 + 8 from rfl, ← List.drop_drop, drop8_le64, drop8_le64]

theorem rdLE_byte (n : Nat) (h : n < 256) : rdLE [UInt8.ofNat n] = n := by
  rw [rdLE_eq]; exact rdBytes_leBytes 1 n h

theorem unleb_leb_small (f n : Nat) (rest : Bytes) (h : n < 128) :
    unleb (f + 1) (leb (f + 1) n ++ rest) = some (n, (leb (f + 1) n).length) := by
  rw [leb, if_pos h, List.cons_append, unleb, UInt8.toNat_ofNat_of_lt' (Nat.lt_trans h (by decide)), if_pos h]
  rfl

theorem unleb_leb (f : Nat) : ∀ (n : Nat) (rest : Bytes), n < 128 ^ (f + 1) →
    unleb (f + 1) (leb (f + 1) n ++ rest) = some (n, (leb (f + 1) n).length) := by
  induction f with
  | zero => intro n rest h; exact unleb_leb_small 0 n rest h
  | succ f ih =>
    intro n rest h
    by_cases hn : n < 128
    · exact unleb_leb_small _ n rest hn
    · have hdiv : n / 128 < 128 ^ (f + 1) := by
        apply Nat.div_lt_of_lt_mul
        rwa [Nat.pow_succ, Nat.mul_comm] at h
      rw [leb, if_neg hn, List.cons_append, unleb, UInt8.toNat_ofNat_of_lt' (Nat.add_lt_add_right (Nat.mod_lt n (by decide)) 128),
        if_neg (Nat.not_lt.mpr (Nat.le_add_left ..)), ih _ rest hdiv, Nat.add_sub_cancel]
      show some (n % 128 + 128 * (n / 128), _) = _
      rw [Nat.mod_add_div]
      rfl

theorem unleb_leb_max (n : Nat) (rest : Bytes) (h : n < 128 ^ 10) :
    unleb maxVarint (leb maxVarint n ++ rest) = some (n, (leb maxVarint n).length) := unleb_leb 9 n rest h

theorem leb_length_pos (f n : Nat) : 0 < (leb (f + 1) n).length := by
  unfold leb; split <;> simp

def ofBits : List Bool → Nat
  | [] => 0
  | b :: bs => b.toNat + 2 * ofBits bs

theorem ofBits_lt (bs : List Bool) : ofBits bs < 2 ^ bs.length := by
  induction bs with
  | nil => exact Nat.one_pos
  | cons b bs ih =>
    have := b.toNat_le
    rw [ofBits, List.length_cons, Nat.pow_succ]
    omega

theorem ofBits_bit (bs : List Bool) : ∀ t : Nat, ((ofBits bs / 2 ^ t) % 2 == 1) = bs.getD t false := by
  induction bs with
  | nil => intro t; rw [ofBits, Nat.zero_div]; rfl
  | cons b bs ih =>
    intro t
    cases t with
    | zero =>
      rw [ofBits, Nat.pow_zero, Nat.div_one, Nat.add_mul_mod_self_left]
      cases b <;> rfl
    | succ t =>
      rw [ofBits, Nat.pow_succ, Nat.mul_comm (2 ^ t) 2, ← Nat.div_div_eq_div_mul, Nat.add_mul_div_left _ _ (by decide),
        Nat.div_eq_of_lt (Nat.lt_succ_of_le b.toNat_le), Nat.zero_add, ih t]
      rfl

theorem bitVal_eq (b : Bool) (w : Nat) : bitVal b w = w * b.toNat := by
  cases b <;> simp [bitVal]

theorem testBit_bitmapByte (f : Nat → Bool) (j t : Nat) (ht : t < 8) : testBit (bitmapByte f j) t = f (8 * j + t) := by
  have hsum : bitVal (f (8 * j)) 1 + bitVal (f (8 * j + 1)) 2 + bitVal (f (8 * j + 2)) 4 + bitVal (f (8 * j + 3)) 8
      + bitVal (f (8 * j + 4)) 16 + bitVal (f (8 * j + 5)) 32 + bitVal (f (8 * j + 6)) 64 + bitVal (f (8 * j + 7)) 128
      = ofBits ((List.range 8).map fun i => f (8 * j + i)) := by
    show _ = ofBits [f (8 * j), f (8 * j + 1), f (8 * j + 2), f (8 * j + 3), f (8 * j + 4), f (8 * j + 5), f (8 * j + 6),
      f (8 * j + 7)]
    simp only [bitVal_eq, ofBits, Nat.mul_add, ← Nat.mul_assoc, Nat.mul_zero, Nat.add_zero, Nat.one_mul, ← Nat.add_assoc,
      Nat.reduceMul]
  rw [testBit, bitmapByte, hsum, UInt8.toNat_ofNat', Nat.mod_eq_of_lt (show _ < 2 ^ 8 from ofBits_lt _), ofBits_bit,
    List.getD_eq_getElem?_getD, List.getElem?_map, List.getElem?_range ht]
  rfl

@[simp] theorem mkBitmap_length (vals : List Cell) : (mkBitmap vals).length = bitmapSize vals.length := by
  simp [mkBitmap]

theorem checkNull_mkBitmap (vals : List Cell) (i : Nat) (h : i < vals.length) :
    checkNull (mkBitmap vals) i = .ok (isNullAt vals i) := by
  unfold checkNull mkBitmap
  have hj : i / 8 < bitmapSize vals.length := by unfold bitmapSize; omega
  rw [List.getElem?_map, List.getElem?_range hj]
  simp only [Option.map_some]
  rw [testBit_bitmapByte _ _ _ (Nat.mod_lt _ (by omega)), Nat.div_add_mod]

theorem isNullAt_cons_succ (c : Cell) (cs : List Cell) (j : Nat) : isNullAt (c :: cs) (j + 1) = isNullAt cs j := by
  simp only [isNullAt, List.getElem?_cons_succ]

theorem isNullAt_of_getElem? {vals : List Cell} {i : Nat} {c : Cell} (h : vals[i]? = some c) :
    isNullAt vals i = c.isNone := by
  rw [isNullAt, h]; cases c <;> rfl

/-- what the model and the proofs assume about the constants extracted from the code -/
def Params.Wf (P : Params) : Prop :=
  P.hdrSize = 24 ∧ P.hdrAlign = 8 ∧ P.hdrXminOff = 0 ∧ P.hdrXmaxOff = 8 ∧ P.hdrVerOff = 16 ∧
  P.dhSize = 16 ∧ P.dhAlign = 8 ∧ P.dhXminOff = 0 ∧ P.dhVerOff = 8 ∧ P.cellAlign = 8 ∧
  P.boolSize = 1 ∧ P.boolAlign = 1 ∧ P.blobAlign = 1 ∧
  AlignOk P.intAlign ∧ AlignOk P.bigintAlign ∧ AlignOk P.uintAlign ∧ AlignOk P.biguintAlign ∧
  AlignOk P.floatAlign ∧ AlignOk P.doubleAlign

instance (P : Params) : Decidable P.Wf := by unfold Params.Wf; exact inferInstance

/-- the parts of `Params.Wf` that the proofs use, under names -/
structure Params.WfParts (P : Params) : Prop where
  hdr : P.hdrSize = 24
  dh : P.dhSize = 16
  dha : P.dhAlign = 8
  cella : P.cellAlign = 8
  boolAlign : P.boolAlign = 1
  blobAlign : P.blobAlign = 1
  intAlign : AlignOk P.intAlign
  bigintAlign : AlignOk P.bigintAlign
  uintAlign : AlignOk P.uintAlign
  biguintAlign : AlignOk P.biguintAlign
  floatAlign : AlignOk P.floatAlign
  doubleAlign : AlignOk P.doubleAlign

theorem Params.Wf.parts {P : Params} (h : P.Wf) : P.WfParts := by
  obtain ⟨hdrSize, _hdrAlign, _hdrXminOff, _hdrXmaxOff, _hdrVerOff, dhSize, dhAlign, _dhXminOff, _dhVerOff, cellAlign,
    _boolSize, boolAlign, blobAlign, intAlign, bigintAlign, uintAlign, biguintAlign, floatAlign, doubleAlign⟩ := h
  exact ⟨hdrSize, dhSize, dhAlign, cellAlign, boolAlign, blobAlign, intAlign, bigintAlign, uintAlign, biguintAlign,
    floatAlign, doubleAlign⟩

theorem Params.Wf.bool_align {P : Params} (h : P.Wf) : P.align .bool = 1 := h.parts.boolAlign
theorem Params.Wf.blob_align {P : Params} (h : P.Wf) : P.align .blob = 1 := h.parts.blobAlign

theorem Params.Wf.dha_pos {P : Params} (h : P.Wf) : 0 < P.dhAlign := by rw [h.parts.dha]; decide

theorem Params.Wf.align_ok {P : Params} (h : P.Wf) : ∀ k : Kind, AlignOk (P.align k)
  | .bool => h.bool_align ▸ Or.inl rfl
  | .blob => h.blob_align ▸ Or.inl rfl
  | .int => h.parts.intAlign
  | .bigint => h.parts.bigintAlign
  | .uint => h.parts.uintAlign
  | .biguint => h.parts.biguintAlign
  | .float => h.parts.floatAlign
  | .double => h.parts.doubleAlign

theorem Params.Wf.align_pos {P : Params} (h : P.Wf) (k : Kind) : 0 < P.align k := (h.align_ok k).pos

/-- hence offsets counted from a delta header align like absolute ones (`alignUp_shift`) -/
theorem Params.Wf.align_dvd {P : Params} (h : P.Wf) (k : Kind) : P.align k ∣ P.dhAlign := by
  rw [h.parts.dha]; exact (h.align_ok k).dvd8

def FitsKind (P : Params) (k : Kind) (p : Bytes) : Prop :=
  match k with
  | .blob => 2 * p.length < 128 ^ 10
  | .bool => p = [0] ∨ p = [1]
  | k => p.length = P.size k

instance (P : Params) (k : Kind) (p : Bytes) : Decidable (FitsKind P k p) := by
  unfold FitsKind; cases k <;> exact inferInstance

/-- The catch-all arm of `deser` (every kind but blob and bool; `deser P k d o` unfolds to it for each of them), stated
    on its own so that those kinds share one proof: the reader aligns the cursor like the writer and takes the payload. -/
theorem deser_fixed {d : Bytes} {o a n : Nat} (ha : 0 < a) {p : Bytes} (hp : p.length = n) (h : At d o (padTo o a ++ p)) :
    (match slice d (alignUp o a) n with
      | .ok q => (.ok (q, alignUp o a + n) : R (Bytes × Nat))
      | .error e => .error e)
    = .ok (p, o + (padTo o a ++ p).length) := by
  have hs := h.right.slice
  rw [add_padTo_length ha, hp] at hs
  rw [hs, add_padTo_append_length ha, hp]

theorem deser_emitVal {P : Params} (hP : P.Wf) {k : Kind} {p : Bytes} (hf : FitsKind P k p) {d : Bytes} {o : Nat}
    (h : At d o (emitVal P k o p)) : deser P k d o = .ok (p, o + (emitVal P k o p).length) := by
  have hle := h.le
  cases k
  case blob =>
    simp only [FitsKind] at hf
    simp only [emitVal, hP.blob_align, padTo_of_dvd Nat.one_pos (Nat.one_dvd o), List.nil_append, encPayload]
      at h hle ⊢
    obtain ⟨post, hd⟩ := h.drop
    rw [List.length_append] at hle
    rw [deser, if_neg (Nat.not_lt.mpr (Nat.le_trans (Nat.le_add_right ..) hle)), hd, List.append_assoc,
      unleb_leb_max _ _ hf]
    simp only [Nat.mul_mod_right, Nat.zero_ne_one, if_false, Nat.mul_div_cancel_left _ (Nat.zero_lt_succ 1)]
    rw [if_neg (Nat.not_lt.mpr (Nat.le_sub_of_add_le' hle)), ← List.drop_drop, hd, List.append_assoc, List.drop_left,
      List.take_left, List.length_append, Nat.add_assoc]
  case bool =>
    simp only [emitVal, hP.bool_align, padTo_of_dvd Nat.one_pos (Nat.one_dvd o), List.nil_append, encPayload] at h hle ⊢
    rcases (show p = [0] ∨ p = [1] from hf) with rfl | rfl
    all_goals
      rw [deser, if_neg (Nat.not_lt.mpr (Nat.le_trans (Nat.le_add_right ..) hle)), h.getElem?]
      rfl
  all_goals exact deser_fixed (hP.align_pos _) hf h

end AxVerif.Tuple
