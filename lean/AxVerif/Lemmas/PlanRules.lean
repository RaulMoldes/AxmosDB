/- C06: every rule keeps the schema and the scoping of a plan; permutation congruence of plan evaluation. -/
import AxVerif.Lemmas.Plan
namespace AxVerif.Plan
open AxVerif.Sql AxVerif.Index

theorem inScope_and (w : Nat) (a b : Expr) : inScope w (.and a b) = (inScope w a && inScope w b) :=
  List.all_append

theorem inScope_col (w j : Nat) : inScope w (.col j) = decide (j < w) :=
  Bool.and_true _

theorem inScope_conjuncts (w : Nat) (e : Expr) : inScope w e = (conjuncts e).all (inScope w) :=
  conjuncts_all (inScope_and w) e

theorem inScope_foldl (w : Nat) (ps : List Expr) (acc : Expr) :
    inScope w (ps.foldl (fun a q => Expr.and a q) acc) = (inScope w acc && ps.all (inScope w)) :=
  foldl_and_all (inScope_and w) ps acc

theorem inScopeOpt_combine (w : Nat) (ps : List Expr) : inScopeOpt w (combine ps) = ps.all (inScope w) := by
  cases ps with
  | nil => rfl
  | cons p ps => simp [combine, inScopeOpt, inScope_foldl]

theorem inScopeOpt_conjuncts (w : Nat) (on : Option Expr) : inScopeOpt w on = (optConj conjuncts on).all (inScope w) := by
  cases on with
  | none => rfl
  | some e => exact inScope_conjuncts w e

theorem inScope_mono {w w' : Nat} (h : w ≤ w') (e : Expr) (he : inScope w e = true) : inScope w' e = true := by
  simp only [inScope, List.all_eq_true, decide_eq_true_eq] at he ⊢
  exact fun i hi => Nat.lt_of_lt_of_le (he i hi) h

theorem inScope_iff (w : Nat) (e : Expr) : inScope w e = true ↔ ∀ i ∈ cols e, i < w := by
  simp [inScope]

theorem inScope_mapCols (w : Nat) (f : Nat → Nat) (e : Expr) :
    inScope w (mapCols f e) = true ↔ ∀ j ∈ cols e, f j < w := by
  rw [inScope_iff, cols_mapCols]
  exact List.forall_mem_map

theorem shiftDown_none (k : Nat) (e : Expr) : shiftDown {} k e = mapCols (· - k) e := rfl
theorem rewriteWith_none (m : List Nat) (e : Expr) : rewriteWith {} m e = mapCols (fun i => m.getD i i) e := rfl

theorem filterOver_wellScoped (st : Store) (ps : List Expr) (c : Plan) :
    (filterOver (combine ps) c).wellScoped st = (c.wellScoped st && ps.all (inScope (c.width st))) := by
  cases ps with
  | nil => simp [combine, filterOver]
  | cons p ps => simp [combine, filterOver, Plan.wellScoped, inScope_foldl]

theorem filterOver_width (st : Store) (p : Option Expr) (c : Plan) : (filterOver p c).width st = c.width st := by
  simp [Plan.width, filterOver_tys]

theorem join_width (st : Store) (k : JoinKind) (on : Option Expr) (l r : Plan) :
    (Plan.join k on l r).width st = l.width st + r.width st := by
  simp [Plan.width, Plan.tys]

/-- what every rule guarantees without any assumption on the store, so that rules can be chained (`rules_keep_schema`) -/
structure Keeps (st : Store) (p q : Plan) : Prop where
  tys : q.tys st = p.tys st
  scope : p.wellScoped st = true → q.wellScoped st = true

theorem filterMerge_keeps (st : Store) (p q : Plan) (h : filterMerge p = some q) : Keeps st p q := by
  unfold filterMerge at h
  split at h
  · simp only [Option.some.injEq] at h
    subst h
    constructor
    · simp [Plan.tys]
    · intro hs
      simp only [Plan.wellScoped, Plan.width, Plan.tys, Bool.and_eq_true] at hs ⊢
      rw [inScope_and]
      simp [hs.1.1, hs.1.2, hs.2]
  · simp at h

theorem filterPushdownJoin_shape (st : Store) (p q : Plan) (h : filterPushdownJoin {} st p = some q) :
    ∃ e k on l r, p = .filter e (.join k on l r) ∧ (k = .inner ∨ k = .cross) ∧
      q = .join k (combine (on.toList ++ (classify (l.width st) e).2.2))
        (filterOver (combine (classify (l.width st) e).1) l)
        (filterOver (combine ((classify (l.width st) e).2.1.map (shiftDown {} (l.width st)))) r) := by
  revert h
  fun_cases filterPushdownJoin {} st p <;> intro h
  case case2 e k on l r hk _ lp rp jp hc _ _ =>
    cases h
    refine ⟨e, k, on, l, r, rfl, by simpa using hk, ?_⟩
    rw [show classify (l.width st) e = _ from hc]
  all_goals cases h

theorem filterPushdownJoin_keeps (st : Store) (p q : Plan) (h : filterPushdownJoin {} st p = some q) : Keeps st p q := by
  obtain ⟨e, k, on, l, r, rfl, _, rfl⟩ := filterPushdownJoin_shape st p q h
  constructor
  · simp [Plan.tys, filterOver_tys]
  · intro hs
    simp only [Plan.wellScoped, join_width, Bool.and_eq_true] at hs
    obtain ⟨⟨⟨hl, hr⟩, hon⟩, he⟩ := hs
    rw [inScope_conjuncts, classify_all (l.width st) e] at he
    simp only [Bool.and_eq_true] at he
    obtain ⟨h1, h2, h3⟩ := he
    simp only [Plan.wellScoped, filterOver_wellScoped, filterOver_width, Bool.and_eq_true, inScopeOpt_combine,
      List.all_append]
    refine ⟨⟨⟨hl, ?_⟩, ⟨hr, ?_⟩⟩, ?_, h3⟩
    · rw [List.all_eq_true]
      intro x hx
      rw [inScope_iff]
      exact classify_left _ _ x hx
    · rw [List.all_map, List.all_eq_true]
      intro x hx
      simp only [Function.comp, shiftDown_none]
      rw [inScope_mapCols]
      intro j hj
      have h1' := classify_right _ _ x hx j hj
      have h2' := (inScope_iff _ _).mp (List.all_eq_true.mp h2 x hx) j hj
      omega
    · cases on with
      | none => simp
      | some o => simpa [inScopeOpt] using hon

theorem filterPushdownProject_shape (p q : Plan) (h : filterPushdownProject {} p = some q) :
    ∃ e items c mapping, p = .filter e (.project items c) ∧ colRefs items = some mapping ∧
      q = .project items (.filter (rewriteWith {} mapping e) c) := by
  revert h
  fun_cases filterPushdownProject {} p <;> intro h
  case case1 e items c mapping hm =>
    cases h
    exact ⟨e, items, c, mapping, rfl, hm, rfl⟩
  all_goals cases h

theorem filterPushdownProject_keeps (st : Store) (p q : Plan) (h : filterPushdownProject {} p = some q) : Keeps st p q := by
  obtain ⟨e, items, c, mapping, rfl, hm, rfl⟩ := filterPushdownProject_shape p q h
  have hitems := colRefs_spec items mapping hm
  constructor
  · simp [Plan.tys]
  · intro hs
    simp only [Plan.wellScoped, Plan.width, Plan.tys, Bool.and_eq_true, List.length_map] at hs
    obtain ⟨⟨hc, hit⟩, he⟩ := hs
    simp only [Plan.wellScoped, Plan.width, Plan.tys, Bool.and_eq_true]
    refine ⟨⟨hc, ?_⟩, hit⟩
    simp only [rewriteWith_none]
    rw [inScope_mapCols]
    intro j hj
    have hjl : j < items.length := (inScope_iff _ _).mp he j hj
    subst hitems
    simp only [List.length_map] at hjl
    have : mapping.getD j j = mapping[j] := by simp [List.getD_eq_getElem?_getD, hjl]
    rw [this]
    have := List.all_eq_true.mp hit (Expr.col mapping[j]) (by simp)
    rw [inScope_col] at this
    exact of_decide_eq_true this

theorem joinCommute_shape (st : Store) (p q : Plan) (h : joinCommute {} st p = some q) :
    ∃ k on l r, p = .join k on l r ∧ (k = .inner ∨ k = .cross) ∧
      q = .project (restoreOrder (l.width st) (r.width st))
        (.join k (on.map (mapCols (fun i => if i < l.width st then i + r.width st else i - l.width st))) r l) := by
  revert h
  fun_cases joinCommute {} st p <;> intro h
  case case1 hD => cases hD
  case case2 k on l r hk _ _ _ _ =>
    cases h
    exact ⟨k, on, l, r, rfl, by simpa using hk, rfl⟩
  all_goals cases h

theorem joinCommute_keeps (st : Store) (p q : Plan) (h : joinCommute {} st p = some q) : Keeps st p q := by
  obtain ⟨k, on, l, r, rfl, _, rfl⟩ := joinCommute_shape st p q h
  constructor
  · simp only [Plan.tys, Plan.width]
    exact restoreOrder_tys _ _
  · intro hs
    simp only [Plan.wellScoped, Bool.and_eq_true] at hs
    obtain ⟨⟨hl, hr⟩, hon⟩ := hs
    simp only [Plan.wellScoped, join_width, Bool.and_eq_true]
    refine ⟨⟨⟨hr, hl⟩, ?_⟩, ?_⟩
    · cases on with
      | none => rfl
      | some o =>
        simp only [Option.map, inScopeOpt] at hon ⊢
        rw [inScope_mapCols]
        intro j hj
        have := (inScope_iff _ _).mp hon j hj
        split <;> omega
    · simp only [restoreOrder, List.all_append, List.all_map, Bool.and_eq_true, List.all_eq_true, List.mem_range]
      constructor
      · intro i hi; simp only [Function.comp, inScope_col, decide_eq_true_eq]; omega
      · intro i hi; simp only [Function.comp, inScope_col, decide_eq_true_eq]; omega

theorem joinAssoc_shape (st : Store) (p q : Plan) (h : joinAssoc {} st p = some q) :
    ∃ outer inner a b c, p = .join .inner outer (.join .inner inner a b) c ∧
      q = .join .inner
        (combine (optConj (collectInvolving {} (a.width st)) inner ++ optConj (collectInvolving {} (a.width st)) outer)) a
        (.join .inner (combine (optConj (collectForRange {} (a.width st)) outer ++ optConj (collectForRange {} (a.width st)) inner)) b c) := by
  revert h
  fun_cases joinAssoc {} st p <;> intro h
  case case1 outer inner a b c _ _ _ _ =>
    cases h
    exact ⟨outer, inner, a, b, c, rfl, rfl⟩
  case case2 => cases h

theorem collectInvolving_sub (k : Nat) (on : Option Expr) : ∀ e ∈ optConj (collectInvolving {} k) on, e ∈ optConj conjuncts on := by
  cases on with
  | none => simp [optConj]
  | some o =>
    intro e he
    simp only [optConj, collectInvolving, List.mem_filter] at he
    exact he.1

theorem collectForRange_scoped (k w : Nat) (on : Option Expr) (h : inScopeOpt (k + w) on = true) :
    (optConj (collectForRange {} k) on).all (inScope w) = true := by
  cases on with
  | none => simp [optConj]
  | some o =>
    simp only [inScopeOpt] at h
    rw [inScope_conjuncts, List.all_eq_true] at h
    simp only [optConj, collectForRange, List.all_map, List.all_eq_true, List.mem_filter]
    intro e he
    simp only [Function.comp, shiftDown_none]
    rw [inScope_mapCols]
    intro j hj
    have h1 := (inScope_iff _ _).mp (h e he.1) j hj
    have h2 : k ≤ j := by
      have := he.2
      simp only [allColsGe, Bool.false_eq_true, if_false, List.all_eq_true, decide_eq_true_eq] at this
      exact this j hj
    omega

theorem joinAssoc_keeps (st : Store) (p q : Plan) (h : joinAssoc {} st p = some q) : Keeps st p q := by
  obtain ⟨outer, inner, a, b, c, rfl, rfl⟩ := joinAssoc_shape st p q h
  constructor
  · simp [Plan.tys, List.append_assoc]
  · intro hs
    simp only [Plan.wellScoped, join_width, Bool.and_eq_true] at hs
    obtain ⟨⟨⟨⟨ha, hb⟩, hin⟩, hc⟩, hout⟩ := hs
    simp only [Plan.wellScoped, join_width, Bool.and_eq_true, inScopeOpt_combine, List.all_append]
    have hin' : inScopeOpt (a.width st + (b.width st + c.width st)) inner = true := by
      cases inner with
      | none => rfl
      | some o => exact inScope_mono (by omega) o hin
    have hout' : inScopeOpt (a.width st + (b.width st + c.width st)) outer = true := by
      rw [← Nat.add_assoc]; exact hout
    refine ⟨⟨ha, ⟨⟨hb, hc⟩, collectForRange_scoped _ _ _ hout', collectForRange_scoped _ _ _ hin'⟩⟩, ?_, ?_⟩
    · rw [List.all_eq_true]
      intro e he
      rw [inScopeOpt_conjuncts, List.all_eq_true] at hin'
      exact hin' e (collectInvolving_sub _ _ e he)
    · rw [List.all_eq_true]
      intro e he
      rw [inScopeOpt_conjuncts, List.all_eq_true] at hout'
      exact hout' e (collectInvolving_sub _ _ e he)

theorem boundOfConjunct_resid (ixcols : List Nat) (e : Expr) : ∀ x ∈ (boundOfConjunct ixcols e).2.2, x = e := by
  fun_cases boundOfConjunct ixcols e <;> simp_all

theorem filterToIndexScan_shape (st : Store) (k : Nat) (p q : Plan) (h : filterToIndexScan {} st k p = some q) :
    ∃ e t ix, p = .filter e (.scan t) ∧ (st.getD t default).indexes[k]? = some ix ∧
      nullableBounded (st.getD t default) ix.cols (extractBounds ix.cols e).1 (extractBounds ix.cols e).2.1 = true ∧
      q = .indexScan t k (extractBounds ix.cols e).1 (extractBounds ix.cols e).2.1 (extractBounds ix.cols e).2.2 := by
  revert h
  fun_cases filterToIndexScan {} st k p <;> intro h
  case case4 e t _ ix hix _ _ hnb =>
    cases h
    simp only [Bool.not_false, Bool.true_and, Bool.not_eq_eq_eq_not, Bool.not_true, Bool.not_eq_false] at hnb
    exact ⟨e, t, ix, rfl, hix, hnb, rfl⟩
  all_goals cases h

theorem filterToIndexScan_keeps (st : Store) (k : Nat) (p q : Plan) (h : filterToIndexScan {} st k p = some q) :
    Keeps st p q := by
  obtain ⟨e, t, ix, rfl, _, _, rfl⟩ := filterToIndexScan_shape st k p q h
  constructor
  · simp [Plan.tys]
  · intro hs
    simp only [Plan.wellScoped, Plan.width, Plan.tys, Bool.true_and] at hs
    simp only [Plan.wellScoped, extractBounds, inScopeOpt_combine, List.all_flatMap, List.all_map]
    rw [inScope_conjuncts, List.all_eq_true] at hs
    rw [List.all_eq_true]
    intro c hc
    simp only [Function.comp, List.all_eq_true]
    intro x hx
    rw [boundOfConjunct_resid ix.cols c x hx]
    exact hs c hc

theorem flatMap_perm_pointwise {α β} (l : List α) (f g : α → List β) (h : ∀ x ∈ l, (f x).Perm (g x)) :
    (l.flatMap f).Perm (l.flatMap g) := by
  induction l with
  | nil => simp
  | cons x xs ih =>
    simp only [List.flatMap_cons]
    exact (h x (by simp)).append (ih (fun y hy => h y (by simp [hy])))

theorem joinLeftPart_perm (m : Row → Row → Bool) (pad : Bool) (rw : Nat) {l l' r r' : List Row} (hl : l.Perm l')
    (hr : r.Perm r') : (joinLeftPart m pad rw l r).Perm (joinLeftPart m pad rw l' r') := by
  simp only [joinLeftPart]
  refine (List.Perm.flatMap_right _ hl).trans ?_
  apply flatMap_perm_pointwise
  intro a _
  have hm : (matchesOf m a r).Perm (matchesOf m a r') := by
    simp only [matchesOf]; exact (hr.filter _).map _
  simp only [hm.isEmpty_eq]
  split
  · exact List.Perm.refl _
  · exact hm

theorem unmatchedRight_perm (m : Row → Row → Bool) (lw : Nat) {l l' r r' : List Row} (hl : l.Perm l')
    (hr : r.Perm r') : (unmatchedRight m lw l r).Perm (unmatchedRight m lw l' r') := by
  simp only [unmatchedRight]
  have : (fun b => !(l.any (fun a => m a b))) = (fun b => !(l'.any (fun a => m a b))) := by
    funext b; rw [hl.any_eq]
  rw [this]
  exact (hr.filter _).map _

theorem joinPure_perm (k : JoinKind) (m : Row → Row → Bool) (lw rw : Nat) {l l' r r' : List Row} (hl : l.Perm l')
    (hr : r.Perm r') : (joinPure k m lw rw l r).Perm (joinPure k m lw rw l' r') := by
  cases k <;> simp only [joinPure]
  · exact joinLeftPart_perm m false rw hl hr
  · exact joinLeftPart_perm m true rw hl hr
  · exact (joinLeftPart_perm m false rw hl hr).append (unmatchedRight_perm m lw hl hr)
  · exact (joinLeftPart_perm m true rw hl hr).append (unmatchedRight_perm m lw hl hr)
  · exact joinLeftPart_perm m false rw hl hr

theorem filterMerge_sound (st : Store) (p q : Plan) (h : filterMerge p = some q) : evalPlan st q = evalPlan st p := by
  unfold filterMerge at h
  split at h
  · cases h
    exact filterMerge_eval st _ _ _
  · cases h

theorem filterPushdownJoin_sound (st : Store) (hwf : wfStore st = true) (p q : Plan)
    (h : filterPushdownJoin {} st p = some q) : evalPlan st q = evalPlan st p := by
  obtain ⟨e, k, on, l, r, rfl, hk, rfl⟩ := filterPushdownJoin_shape st p q h
  exact filterPushdownJoin_eval st hwf e k on l r hk

theorem filterPushdownProject_sound (st : Store) (hwf : wfStore st = true) (p q : Plan)
    (hs : p.wellScoped st = true) (h : filterPushdownProject {} p = some q) : evalPlan st q = evalPlan st p := by
  obtain ⟨e, items, c, mapping, rfl, hm, rfl⟩ := filterPushdownProject_shape p q h
  simp only [Plan.wellScoped, Plan.width, Plan.tys, Bool.and_eq_true, List.length_map] at hs
  exact filterPushdownProject_eval st hwf e items c mapping hm ((inScope_iff _ _).mp hs.2)

theorem joinCommute_sound (st : Store) (hwf : wfStore st = true) (p q : Plan) (hs : p.wellScoped st = true)
    (h : joinCommute {} st p = some q) : (evalPlan st q).Perm (evalPlan st p) := by
  obtain ⟨k, on, l, r, rfl, hk, rfl⟩ := joinCommute_shape st p q h
  simp only [Plan.wellScoped, Bool.and_eq_true] at hs
  apply joinCommute_eval st hwf k on l r hk
  rintro e rfl
  exact (inScope_iff _ _).mp hs.2

theorem joinAssoc_sound (st : Store) (hwf : wfStore st = true) (p q : Plan) (hs : p.wellScoped st = true)
    (h : joinAssoc {} st p = some q) : evalPlan st q = evalPlan st p := by
  obtain ⟨outer, inner, a, b, c, rfl, rfl⟩ := joinAssoc_shape st p q h
  simp only [Plan.wellScoped, join_width, Bool.and_eq_true] at hs
  apply joinAssoc_eval st hwf outer inner a b c
  rintro e rfl
  exact (inScope_iff _ _).mp hs.1.1.2

theorem filterToIndexScan_sound (st : Store) (hwf : wfStore st = true) (hc : StoreConsistent st) (k : Nat)
    (p q : Plan) (h : filterToIndexScan {} st k p = some q) : (evalPlan st q).Perm (evalPlan st p) := by
  obtain ⟨e, t, ix, rfl, hix, hnb, rfl⟩ := filterToIndexScan_shape st k p q h
  exact indexScan_eval st hwf hc t k e ix hix hnb

theorem mem_rootSteps {st : Store} {p q : Plan} (h : q ∈ rootSteps {} st p) :
    filterMerge p = some q ∨ filterPushdownJoin {} st p = some q ∨ filterPushdownProject {} p = some q
      ∨ joinCommute {} st p = some q ∨ joinAssoc {} st p = some q ∨ ∃ k, filterToIndexScan {} st k p = some q := by
  simp only [rootSteps, List.mem_append, List.mem_filterMap, List.mem_cons, List.not_mem_nil, or_false, id] at h
  rcases h with ⟨o, (rfl | rfl | rfl | rfl | rfl), ho⟩ | ⟨k, _, hk⟩
  · exact .inl ho
  · exact .inr (.inl ho)
  · exact .inr (.inr (.inl ho))
  · exact .inr (.inr (.inr (.inl ho)))
  · exact .inr (.inr (.inr (.inr (.inl ho))))
  · exact .inr (.inr (.inr (.inr (.inr ⟨k, hk⟩))))

theorem rootSteps_keeps (st : Store) (p q : Plan) (h : q ∈ rootSteps {} st p) : Keeps st p q := by
  rcases mem_rootSteps h with h | h | h | h | h | ⟨k, h⟩
  · exact filterMerge_keeps st p q h
  · exact filterPushdownJoin_keeps st p q h
  · exact filterPushdownProject_keeps st p q h
  · exact joinCommute_keeps st p q h
  · exact joinAssoc_keeps st p q h
  · exact filterToIndexScan_keeps st k p q h

structure Sound (st : Store) (p q : Plan) : Prop where
  eval : (evalPlan st q).Perm (evalPlan st p)
  tys : q.tys st = p.tys st
  scope : q.wellScoped st = true

theorem rootSteps_sound (st : Store) (hwf : wfStore st = true) (hc : StoreConsistent st) (p q : Plan)
    (hs : p.wellScoped st = true) (h : q ∈ rootSteps {} st p) : Sound st p q := by
  have hk := rootSteps_keeps st p q h
  refine ⟨?_, hk.tys, hk.scope hs⟩
  rcases mem_rootSteps h with h | h | h | h | h | ⟨k, h⟩
  · exact .of_eq (filterMerge_sound st p q h)
  · exact .of_eq (filterPushdownJoin_sound st hwf p q h)
  · exact .of_eq (filterPushdownProject_sound st hwf p q hs h)
  · exact joinCommute_sound st hwf p q hs h
  · exact .of_eq (joinAssoc_sound st hwf p q hs h)
  · exact filterToIndexScan_sound st hwf hc k p q h

theorem steps_sound (st : Store) (hwf : wfStore st = true) (hc : StoreConsistent st) :
    ∀ (p q : Plan), p.wellScoped st = true → q ∈ steps {} st p → Sound st p q := by
  intro p
  induction p with
  | scan t => intro q hs h; exact rootSteps_sound st hwf hc _ q hs h
  | indexScan t k lo hi r => intro q hs h; exact rootSteps_sound st hwf hc _ q hs h
  | filter e c ih =>
    intro q hs h
    simp only [steps, List.mem_append, List.mem_map] at h
    rcases h with h | ⟨c', hc', rfl⟩
    · exact rootSteps_sound st hwf hc _ q hs h
    · simp only [Plan.wellScoped, Bool.and_eq_true] at hs
      have s := ih c' hs.1 hc'
      refine ⟨?_, ?_, ?_⟩
      · simp only [evalPlan, s.tys]
        exact s.eval.filter _
      · simp [Plan.tys, s.tys]
      · simp [Plan.wellScoped, Plan.width, s.tys, s.scope]
        simpa [Plan.width] using hs.2
  | project items c ih =>
    intro q hs h
    simp only [steps, List.mem_append, List.mem_map] at h
    rcases h with h | ⟨c', hc', rfl⟩
    · exact rootSteps_sound st hwf hc _ q hs h
    · simp only [Plan.wellScoped, Bool.and_eq_true] at hs
      have s := ih c' hs.1 hc'
      refine ⟨?_, ?_, ?_⟩
      · simp only [evalPlan, s.tys]
        exact s.eval.filterMap _
      · simp [Plan.tys, s.tys]
      · simp only [Plan.wellScoped, Plan.width, s.tys, s.scope, Bool.true_and]
        simpa [Plan.width] using hs.2
  | join k on l r ihl ihr =>
    intro q hs h
    simp only [steps, List.mem_append, List.mem_map] at h
    simp only [Plan.wellScoped, Bool.and_eq_true] at hs
    rcases h with (h | ⟨l', hl', rfl⟩) | ⟨r', hr', rfl⟩
    · exact rootSteps_sound st hwf hc _ q (by simp [Plan.wellScoped, hs.1.1, hs.1.2, hs.2]) h
    · have s := ihl l' hs.1.1 hl'
      refine ⟨?_, ?_, ?_⟩
      · simp only [evalPlan, Plan.width, s.tys]
        exact joinPure_perm _ _ _ _ s.eval (List.Perm.refl _)
      · simp [Plan.tys, s.tys]
      · simp only [Plan.wellScoped, Plan.width, s.tys, s.scope, hs.1.2, Bool.true_and]
        simpa [Plan.width] using hs.2
    · have s := ihr r' hs.1.2 hr'
      refine ⟨?_, ?_, ?_⟩
      · simp only [evalPlan, Plan.width, s.tys]
        exact joinPure_perm _ _ _ _ (List.Perm.refl _) s.eval
      · simp [Plan.tys, s.tys]
      · simp only [Plan.wellScoped, Plan.width, s.tys, s.scope, hs.1.1, Bool.true_and]
        simpa [Plan.width] using hs.2

/-- the plans the optimizer can reach from `p`: any sequence of rule applications, anywhere in the plan -/
inductive Reachable (st : Store) : Plan → Plan → Prop
  | refl (p : Plan) : Reachable st p p
  | step {p q r : Plan} : Reachable st p q → r ∈ steps {} st q → Reachable st p r

theorem reachable_sound (st : Store) (hwf : wfStore st = true) (hc : StoreConsistent st) (p q : Plan)
    (hs : p.wellScoped st = true) (h : Reachable st p q) : Sound st p q := by
  induction h with
  | refl => exact ⟨List.Perm.refl _, rfl, hs⟩
  | step _ hstep ih =>
    have s := steps_sound st hwf hc _ _ ih.scope hstep
    exact ⟨s.eval.trans ih.eval, s.tys.trans ih.tys, s.scope⟩

end AxVerif.Plan
