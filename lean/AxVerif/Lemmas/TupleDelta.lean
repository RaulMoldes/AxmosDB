/-
  Helper lemmas for the tuple model, part 3: one delta (`applyDelta` on `encDelta`), the delta block, the walk.

  The readers are followed at absolute offsets: the writer of a piece standing at offset `o` is applied to `o`.  `encDelta`
  and `encode` write relative to an aligned start; that this makes no difference is said once per writer
  (`emitVal_shift`, `emitChanges_shift`, `encBlock_shift`).
-/
import AxVerif.Lemmas.TupleMain
namespace AxVerif.Tuple
open AxVerif

theorem emitVal_shift {P : Params} (hP : P.Wf) (k : Kind) {B : Nat} (hB : P.dhAlign ∣ B) (r : Nat) (p : Bytes) :
    emitVal P k (B + r) p = emitVal P k r p := by
  simp only [emitVal, padTo_shift (hP.align_pos k) (Nat.dvd_trans (hP.align_dvd k) hB)]

theorem emitChanges_shift {P : Params} (hP : P.Wf) (kinds : List Kind) (old : List Cell) {B : Nat} (hB : P.dhAlign ∣ B) :
    ∀ (is : List Nat) (rel : Nat), emitChanges P kinds old (B + rel) is = emitChanges P kinds old rel is := by
  intro is
  induction is with
  | nil => intro rel; rfl
  | cons i is ih =>
    intro rel
    simp only [emitChanges]
    split
    · rw [Nat.add_assoc B, emitVal_shift hP _ hB, Nat.add_assoc B, ih]
    · rw [Nat.add_assoc, ih]

structure Redirected (P : Params) (sch : Schema) (d : Bytes) (old : List Cell) (is : List Nat) (offs offs' : List Nat) :
    Prop where
  len : offs'.length = offs.length
  same : ∀ j, j ∉ is → offs'[j]? = offs[j]?
  rd : ∀ j k p, j ∈ is → sch.vals[j]? = some k → old[j]? = some (some p) →
    ∃ o' e, offs'[j]? = some o' ∧ deser P k d o' = .ok (p, e)

theorem applyChanges_emit {P : Params} (hP : P.Wf) (sch : Schema) {d : Bytes} {old : List Cell}
    (hfit : CellsFit P sch.vals old) :
    ∀ (is : List Nat) (o : Nat) (offs : List Nat),
      At d o (emitChanges P sch.vals old o is) →
      (∀ i, i ∈ is → i < old.length ∧ i < 256) →
      offs.length = sch.vals.length →
      ∃ offs', applyChanges P sch d (mkBitmap old) is.length o offs
            = .ok (offs', o + (emitChanges P sch.vals old o is).length)
        ∧ Redirected P sch d old is offs offs' := by
  intro is
  induction is with
  | nil => intro o offs _ _ _; exact ⟨offs, rfl, rfl, fun _ _ => rfl, fun _ _ _ hj => nomatch hj⟩
  | cons i is ih =>
    intro o offs h hidx hoffs
    obtain ⟨hi, hi256⟩ := hidx i (List.mem_cons_self ..)
    have hidx' : ∀ i', i' ∈ is → i' < old.length ∧ i' < 256 := fun i' h => hidx i' (List.mem_cons_of_mem _ h)
    obtain ⟨k, hk⟩ : ∃ k, sch.vals[i]? = some k := ⟨_, List.getElem?_eq_getElem (hfit.length ▸ hi)⟩
    have hc : old[i]? = some old[i] := List.getElem?_eq_getElem hi
    have hnull : checkNull (mkBitmap old) i = .ok old[i].isNone := by
      rw [checkNull_mkBitmap old i hi, isNullAt_of_getElem? hc]
    generalize old[i] = c at hc hnull
    have hmem : ∀ {j}, j ∉ i :: is → j ≠ i ∧ j ∉ is := fun hj => ⟨fun e => hj (e ▸ List.mem_cons_self ..),
      fun e => hj (List.mem_cons_of_mem _ e)⟩
    cases c with
    | none =>
      -- NULL in the old version: only the index byte was written
      simp only [emitChanges, hc, hk] at h ⊢
      obtain ⟨offs', h1, ⟨h2, h3, h4⟩⟩ := ih (o + 1) offs h.tail hidx' hoffs
      refine ⟨offs', ?_, h2, fun j hj => h3 j (hmem hj).2, ?_⟩
      · simp only [List.length_cons, applyChanges, h.getByte, UInt8.toNat_ofNat_of_lt' hi256, hnull, Option.isNone_none, h1,
          Nat.add_assoc, Nat.add_comm 1]
      · intro j k' p hj hk' hp
        rcases List.mem_cons.mp hj with rfl | hj'
        · rw [hc] at hp; cases hp
        · exact h4 j k' p hj' hk' hp
    | some p =>
      simp only [emitChanges, hc, hk] at h ⊢
      have hde := deser_emitVal hP (hfit.get i k p hk hc) h.tail.left
      obtain ⟨offs', h1, ⟨h2, h3, h4⟩⟩ := ih _ (offs.set i (o + 1)) h.tail.right hidx' (by rw [List.length_set, hoffs])
      refine ⟨offs', ?_, by rw [h2, List.length_set], ?_, ?_⟩
      · simp only [List.length_cons, applyChanges, h.getByte, UInt8.toNat_ofNat_of_lt' hi256, hnull, Option.isNone_some, hk, hde, h1]
        simp only [List.length_append, List.length_cons, Nat.add_assoc, Nat.add_comm 1]
      · intro j hj
        rw [h3 j (hmem hj).2, List.getElem?_set_ne (Ne.symm (hmem hj).1)]
      · intro j k' p' hj hk' hp
        by_cases hjs : j ∈ is
        · exact h4 j k' p' hjs hk' hp
        · rcases List.mem_cons.mp hj with rfl | hj'
          · rw [hk] at hk'; rw [hc] at hp
            cases hk'; cases hp
            exact ⟨o + 1, _, by rw [h3 j hjs, List.getElem?_set_self (by rw [hoffs, ← hfit.length]; exact hi)], hde⟩
          · exact absurd hj' hjs

structure DeltaOk (P : Params) (sch : Schema) (v : LVersion) (ch : List Nat) : Prop where
  fit : CellsFit P sch.vals v.vals
  idx : ∀ i, i ∈ ch → i < v.vals.length ∧ i < 256
  nch : ch.length < 256
  creator : v.creator < 2 ^ 64
  ver : v.ver < 256

theorem encDelta_length_gt {P : Params} (hP : P.Wf) (sch : Schema) (xmin ver : Nat) (old : List Cell) (ch : List Nat) :
    P.dhSize < (encDelta P sch xmin ver old ch).length := by
  simp only [encDelta, List.length_append, encDeltaHeader_length hP, List.length_cons, List.length_nil]
  omega

theorem encDelta_eq {P : Params} (hP : P.Wf) (sch : Schema) (xmin ver : Nat) (old : List Cell) (ch : List Nat) {o : Nat}
    (ho : P.dhAlign ∣ o) :
    encDelta P sch xmin ver old ch = encDeltaHeader P xmin ver ++ [UInt8.ofNat ch.length] ++ mkBitmap old
      ++ emitChanges P sch.vals old (o + P.dhSize + 1 + bitmapSize old.length) ch := by
  rw [encDelta, ← emitChanges_shift hP _ _ ho, ← Nat.add_assoc, ← Nat.add_assoc]

theorem delta_reads {P : Params} (hP : P.Wf) (sch : Schema) {d : Bytes} {v : LVersion} {ch : List Nat}
    (hok : DeltaOk P sch v ch) {c : Nat} (h : At d (alignUp c P.dhAlign) (encDelta P sch v.creator v.ver v.vals ch)) :
    ∃ DH, slice d (alignUp c P.dhAlign) P.dhSize = .ok DH ∧ rdLE (DH.take 8) = v.creator
      ∧ getByte d (alignUp c P.dhAlign + P.dhSize) = .ok (UInt8.ofNat ch.length)
      ∧ slice d (alignUp c P.dhAlign + P.dhSize + 1) (bitmapSize sch.vals.length) = .ok (mkBitmap v.vals)
      ∧ ∀ offs, offs.length = sch.vals.length → ∃ offs',
          applyChanges P sch d (mkBitmap v.vals) ch.length (alignUp c P.dhAlign + P.dhSize + 1 + bitmapSize sch.vals.length)
              offs = .ok (offs', alignUp c P.dhAlign + (encDelta P sch v.creator v.ver v.vals ch).length)
            ∧ Redirected P sch d v.vals ch offs offs' := by
  have hvl : v.vals.length = sch.vals.length := hok.fit.length
  have hDl := encDeltaHeader_length hP v.creator v.ver
  have hrd1 : rdLE ((encDeltaHeader P v.creator v.ver).take 8) = v.creator := by
    simp only [encDeltaHeader, List.append_assoc]
    rw [take8_le64, rdLE_le64 _ hok.creator]
  rw [encDelta_eq hP sch _ _ _ _ (dvd_alignUp c P.dhAlign), hvl] at h ⊢
  generalize encDeltaHeader P v.creator v.ver = DH at hDl hrd1 h ⊢
  -- header, number of changes, bitmap, changes, each at its offset
  have h1 := h.left.left.left.slice
  have h2 := h.left.left.right.getByte
  have h3 := h.left.right.slice
  have h4 := h.right
  simp only [List.length_append, List.length_cons, List.length_nil, hDl, mkBitmap_length, hvl, Nat.zero_add,
    ← Nat.add_assoc] at h1 h2 h3 h4 ⊢
  exact ⟨DH, h1, hrd1, h2, h3, fun offs hlen => applyChanges_emit hP sch hok.fit ch _ offs h4 hok.idx hlen⟩

theorem applyDelta_enc {P : Params} (hP : P.Wf) (sch : Schema) {d : Bytes} {v : LVersion} {ch : List Nat}
    (hok : DeltaOk P sch v ch) {c : Nat} (h : At d (alignUp c P.dhAlign) (encDelta P sch v.creator v.ver v.vals ch))
    (lay : Layout) (hlen : lay.valOffs.length = sch.vals.length) :
    ∃ lay', applyDelta P sch d lay c = .ok (lay', alignUp c P.dhAlign + (encDelta P sch v.creator v.ver v.vals ch).length)
      ∧ lay'.vxmin = v.creator
      ∧ ∀ keys newer, LayoutOk P sch d lay keys newer → (∀ j, j < sch.vals.length → j ∉ ch → v.vals[j]? = newer[j]?) →
          LayoutOk P sch d lay' keys v.vals := by
  obtain ⟨DH, h1, hrd1, h2, h3, h5⟩ := delta_reads hP sch hok h
  obtain ⟨offs', h5, hr⟩ := h5 lay.valOffs hlen
  refine ⟨{ lay with vxmax := some lay.vxmin, version := rdLE ((DH.drop 8).take 1), vxmin := v.creator,
                     nullStart := alignUp c P.dhAlign + P.dhSize + 1, valOffs := offs' }, ?_, rfl, ?_⟩
  · simp only [applyDelta, h1, h2, h3, UInt8.toNat_ofNat_of_lt' hok.nch, h5, hrd1]
  · intro keys newer hl hsame
    refine ⟨hl.keysAt, ⟨hr.len.trans hlen, hok.fit.length, ?_⟩, h3⟩
    intro j k o p hk ho hp
    by_cases hj : j ∈ ch
    · obtain ⟨o', e, ho', hde⟩ := hr.rd j k p hj hk hp
      cases ho.symm.trans ho'
      exact ⟨e, hde⟩
    · have hjl : j < sch.vals.length := (List.getElem?_eq_some_iff.mp hk).1
      exact hl.valsAt.rd j k o p hk ((hr.same j hj).symm.trans ho) ((hsame j hjl hj).symm.trans hp)

theorem skipDelta_enc {P : Params} (hP : P.Wf) (sch : Schema) {d : Bytes} {v : LVersion} {ch : List Nat}
    (hok : DeltaOk P sch v ch) {c : Nat} (h : At d (alignUp c P.dhAlign) (encDelta P sch v.creator v.ver v.vals ch)) :
    skipDelta P sch d c = .ok (v.creator, alignUp c P.dhAlign + (encDelta P sch v.creator v.ver v.vals ch).length) := by
  obtain ⟨DH, h1, hrd1, h2, h3, h5⟩ := delta_reads hP sch hok h
  obtain ⟨offs', h5, _⟩ := h5 (List.replicate sch.vals.length 0) List.length_replicate
  simp only [skipDelta, h1, h2, h3, UInt8.toNat_ofNat_of_lt' hok.nch, h5, hrd1]

def HistOk (P : Params) (sch : Schema) : List Cell → List (LVersion × List Nat) → Prop
  | _, [] => True
  | newer, (v, ch) :: rest =>
    DeltaOk P sch v ch ∧ (∀ j, j < sch.vals.length → j ∉ ch → v.vals[j]? = newer[j]?) ∧ HistOk P sch v.vals rest

theorem encBlock_shift {P : Params} (hP : P.Wf) (sch : Schema) {B : Nat} (hB : P.dhAlign ∣ B) :
    ∀ (rest : List (LVersion × List Nat)) (rel : Nat), encBlock P sch (B + rel) rest = encBlock P sch rel rest := by
  intro rest
  induction rest with
  | nil => intro _; rfl
  | cons x rest ih =>
    intro rel
    simp only [encBlock, padTo_shift hP.dha_pos hB]
    rw [Nat.add_assoc, ih]

theorem encBlock_of_dvd {P : Params} (hP : P.Wf) (sch : Schema) {o : Nat} (ho : P.dhAlign ∣ o)
    (rest : List (LVersion × List Nat)) : encBlock P sch o rest = encBlock P sch 0 rest :=
  encBlock_shift hP sch ho rest 0

theorem encBlock_length_ge {P : Params} (hP : P.Wf) (sch : Schema) (rest : List (LVersion × List Nat)) (o : Nat) :
    rest.length ≤ (encBlock P sch o rest).length := by
  fun_induction encBlock P sch o rest with
  | case1 => exact Nat.zero_le _
  | case2 o v c rest e ih =>
    have := encDelta_length_gt hP sch v.creator v.ver v.vals c
    simp only [e, List.length_append, List.length_cons] at ih ⊢
    omega

/-- the end of a block, seen from its start and from behind its first delta -/
theorem encBlock_cons_length {P : Params} (hP : P.Wf) (sch : Schema) (c : Nat) (v : LVersion) (ch : List Nat)
    (rest : List (LVersion × List Nat)) :
    (encBlock P sch c ((v, ch) :: rest)).length + c
      = (encBlock P sch (alignUp c P.dhAlign + (encDelta P sch v.creator v.ver v.vals ch).length) rest).length
        + (alignUp c P.dhAlign + (encDelta P sch v.creator v.ver v.vals ch).length) := by
  rw [← add_padTo_append_length hP.dha_pos _, encBlock, List.length_append]
  omega

theorem encBlock_cons_at {P : Params} (hP : P.Wf) {sch : Schema} {d : Bytes} {c : Nat} {v : LVersion} {ch : List Nat}
    {rest : List (LVersion × List Nat)} (h : At d c (encBlock P sch c ((v, ch) :: rest))) :
    At d (alignUp c P.dhAlign) (encDelta P sch v.creator v.ver v.vals ch)
      ∧ At d (alignUp c P.dhAlign + (encDelta P sch v.creator v.ver v.vals ch).length)
          (encBlock P sch (alignUp c P.dhAlign + (encDelta P sch v.creator v.ver v.vals ch).length) rest) := by
  have h1 := h.left.right
  have h2 := h.right
  rw [add_padTo_length hP.dha_pos] at h1
  rw [add_padTo_append_length hP.dha_pos _] at h2
  exact ⟨h1, h2⟩

theorem moreDeltas_of_at {P : Params} {d : Bytes} {c : Nat} {x : Bytes} (h : At d (alignUp c P.dhAlign) x)
    (hx : P.dhSize ≤ x.length) : moreDeltas {} P d c = true := by
  have := h.le
  simp only [moreDeltas, Bool.false_eq_true, if_false, decide_eq_true_eq]
  omega

theorem moreDeltas_of_short {P : Params} (hP : P.Wf) {d : Bytes} {c : Nat} (h : d.length < c + P.dhSize) :
    moreDeltas {} P d c = false := by
  have := alignUp_ge (c := c) hP.dha_pos
  simp only [moreDeltas, Bool.false_eq_true, if_false, decide_eq_false_iff_not]
  omega

theorem walk_none_of_short {P : Params} (hP : P.Wf) (sch : Schema) (s : Snapshot) {d : Bytes} (fuel : Nat) {c : Nat}
    (lay : Layout) (h : d.length < c + P.dhSize) : walk {} P sch s d fuel c lay = .ok none := by
  cases fuel with
  | zero => rfl
  | succ f => simp only [walk, moreDeltas_of_short hP h]; rfl

theorem walk_block {P : Params} (hP : P.Wf) (sch : Schema) (s : Snapshot) (keys : List Bytes) {d : Bytes} :
    ∀ (rest : List (LVersion × List Nat)) (c : Nat) (lay : Layout) (newer : List Cell) (fuel : Nat),
      At d c (encBlock P sch c rest) → d.length < (encBlock P sch c rest).length + c + P.dhSize →
      HistOk P sch newer rest →
      LayoutOk P sch d lay keys newer →
      rest.length ≤ fuel →
      match firstVisible {} s (rest.map (·.1)) with
      | some v => ∃ lay', walk {} P sch s d fuel c lay = .ok (some lay') ∧ LayoutOk P sch d lay' keys v.vals
      | none => walk {} P sch s d fuel c lay = .ok none := by
  intro rest
  induction rest with
  | nil =>
    intro c lay _ fuel _ hend _ _ _
    rw [encBlock, List.length_nil, Nat.zero_add] at hend
    exact walk_none_of_short hP sch s fuel lay hend
  | cons x rest ih =>
    intro c lay newer fuel h hend hh hl hfuel
    obtain ⟨v, ch⟩ := x
    cases fuel with
    | zero => cases hfuel
    | succ fuel =>
      obtain ⟨hD, hR⟩ := encBlock_cons_at hP h
      obtain ⟨lay', ha, hxmin, hl'⟩ := applyDelta_enc hP sch hh.1 hD lay hl.valsAt.len_o
      have hmore := moreDeltas_of_at hD (Nat.le_of_lt (encDelta_length_gt hP sch ..))
      have hvis : (committedBefore {} s lay'.vxmin || (!({} : Defects).walkIgnoresOwnVersions && decide (lay'.vxmin = s.xid)))
          = creatorVisible {} s v.creator := by
        rw [hxmin]; exact Bool.or_comm _ _
      simp only [List.map_cons, firstVisible, walk, hmore, if_true, ha, hvis]
      cases hv : creatorVisible {} s v.creator with
      | true => exact ⟨lay', rfl, hl' keys newer hl hh.2.1⟩
      | false =>
        rw [encBlock_cons_length hP sch c v ch rest] at hend
        exact ih _ lay' v.vals fuel hR hend hh.2.2 (hl' keys newer hl hh.2.1) (Nat.le_of_succ_le_succ hfuel)

end AxVerif.Tuple
