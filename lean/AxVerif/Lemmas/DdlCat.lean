/-
  Catalog lemmas for C15: commit on the abstract machine is all or nothing, the names of the live relations stay unique,
  what the re-write of a table does to a view.
-/
import AxVerif.Lemmas.DdlSim
namespace AxVerif.Ddl
open AxVerif.Db

/-- the meta table's own constraints (name NOT NULL and UNIQUE) on a view -/
def namesOk (v : View) : Bool := constraintsHold [metaSchema] v

theorem namesOk_of_holds (rest : Catalog) (v : View) (h : constraintsHold (metaSchema :: rest) v = true) :
    namesOk v = true := by
  unfold namesOk constraintsHold at *
  apply List.all_eq_true.2
  intro r hr
  have hr' := List.all_eq_true.1 h r hr
  have hsingle : findTable [metaSchema] r.table = if metaName = r.table then some metaSchema else none := by
    simp only [findTable, List.find?_cons, List.find?_nil, metaSchema]
    by_cases h : metaName = r.table
    · simp [h]
    · have : (metaName == r.table) = false := by simpa using h
      simp [h, this]
  rw [hsingle]
  by_cases e : metaName = r.table
  · rw [← e, show findTable (metaSchema :: rest) metaName = some metaSchema by simp [findTable, metaSchema, metaName]] at hr'
    simp only [e, if_true]
    exact hr'
  · simp [e]

theorem Spec.commitC_cases (α : Spec.State) (a : Db.Spec.ATxn) :
    ((α.commitC a).2 = none ∧ (α.commitC a).1.db.committed = takeOver α.db.committed a.view a.ws ∧
      constraintsHold (catOf α.heap (takeOver α.db.committed a.view a.ws)) (takeOver α.db.committed a.view a.ws) = true) ∨
    ((∃ e, (α.commitC a).2 = some e) ∧ (α.commitC a).1 = α) := by
  have e : α.commitC a =
      ({ α with db := { (Db.Spec.State.commitC { α.db with cat := catOf α.heap (α.db.commitTxn a).1.committed } a).1 with
                          cat := α.db.cat } },
        (Db.Spec.State.commitC { α.db with cat := catOf α.heap (α.db.commitTxn a).1.committed } a).2) := rfl
  rw [e, spec_commitC_eq]
  by_cases hc : Db.Spec.conflict α.db.log a = true
  · rw [if_pos hc]; exact Or.inr ⟨⟨_, rfl⟩, rfl⟩
  · have hcm : (α.db.commitTxn a).1.committed = takeOver α.db.committed a.view a.ws := by
      unfold Db.Spec.State.commitTxn; rw [if_neg hc]
    rw [if_neg hc, hcm]
    by_cases hk : constraintsHold (catOf α.heap (takeOver α.db.committed a.view a.ws))
        (takeOver α.db.committed a.view a.ws) = true
    · rw [if_pos hk]; exact Or.inl ⟨rfl, rfl, hk⟩
    · rw [if_neg hk]; exact Or.inr ⟨⟨_, rfl⟩, rfl⟩

theorem Spec.commitC_names (α : Spec.State) (a : Db.Spec.ATxn) (h : namesOk α.db.committed = true) :
    namesOk (α.commitC a).1.db.committed = true := by
  rcases Spec.commitC_cases α a with ⟨_, h2, h3⟩ | ⟨_, h2⟩
  · rw [h2]; exact namesOk_of_holds _ _ h3
  · rw [h2]; exact h

theorem Spec.drop_committed (α : Spec.State) (s : String) :
    (Spec.liftDb α (.drop s)).1.db.committed = α.db.committed := by
  unfold Spec.liftDb
  simp only [Db.Spec.stepCore]
  cases lookup s α.db.sessions <;> rfl

theorem Spec.reopen_committed : ∀ (ss : List String) (α : Spec.State),
    (ss.foldl (fun α s => (Spec.liftDb α (.drop s)).1) α).db.committed = α.db.committed
  | [], _ => rfl
  | s :: ss, α => by
    rw [List.foldl_cons, Spec.reopen_committed ss, Spec.drop_committed]

theorem Spec.step_names (α : Spec.State) (op : DOp) (h : namesOk α.db.committed = true) :
    namesOk (Spec.step α op).1.db.committed = true := by
  unfold Spec.step
  fun_cases Spec.stepCore α op
  -- COMMIT of an open session
  case case3 a _ α1 r hc => exact (congrArg (·.1.db.committed) hc) ▸ Spec.commitC_names α a h
  -- ROLLBACK, session drop
  case case4 s => exact (Spec.drop_committed α s).symm ▸ h
  case case5 s => exact (Spec.drop_committed α s).symm ▸ h
  -- autocommit statement that succeeded
  case case9 a' h' o _ _ α1 r hc => exact (congrArg (·.1.db.committed) hc) ▸ Spec.commitC_names { α with heap := h' } a' h
  -- reopen
  case case10 ss => exact (Spec.reopen_committed ss α).symm ▸ h
  -- begin, statements inside a session, failed autocommit, tick, nop: the committed database is not touched
  all_goals exact h

theorem Spec.final_names : ∀ (ops : List DOp) (α : Spec.State), namesOk α.db.committed = true →
    namesOk (Spec.final α ops).db.committed = true
  | [], _, h => h
  | op :: ops, α, h => Spec.final_names ops _ (Spec.step_names α op h)

theorem filterMap_del_absent (rid : Rid) : ∀ (l : View), (∀ r ∈ l, r.rid ≠ rid) →
    l.filterMap (fun r => if r.rid = rid then none else some r) = l
  | [], _ => rfl
  | r :: rs, h => by
    have h1 : r.rid ≠ rid := h r (List.mem_cons_self ..)
    simp only [List.filterMap_cons, h1, if_false]
    rw [filterMap_del_absent rid rs (fun x hx => h x (List.mem_cons_of_mem _ hx))]

def newRows (c : Nat) (tname : String) (f : List Val → List Val) : List ARow → Nat → List ARow
  | [], _ => []
  | r :: rs, j => if r.table == tname then ⟨(c, j), tname, f r.vals⟩ :: newRows c tname f rs (j + 1)
                  else newRows c tname f rs j

/-- Induction over the rows still to be re-written, inside a view `pre ++ rs ++ news`: `pre` = the rows already passed (those of
    other tables, kept), `news` = the rows inserted so far.  A delete hits exactly its row because no row of `pre`, `news` or the
    rest of `rs` carries its id (the three side conditions; a new row has the clock of this operation in its id, which no old
    row has), and an insert goes to the end of `news`. -/
theorem rewrite_view_aux (c : Nat) (tname : String) (f : List Val → List Val) (rs : List ARow) (j : Nat) :
    ∀ (pre news : List ARow),
      (∀ r ∈ rs, ∀ x ∈ pre ++ news, x.rid ≠ r.rid) → rs.Pairwise (fun a b => a.rid ≠ b.rid) →
      (∀ r ∈ rs, r.rid.1 ≠ c) →
      View.applyAll (pre ++ rs ++ news) (rewriteRows c tname f rs j) =
        pre ++ rs.filter (fun r => !(r.table == tname)) ++ news ++ newRows c tname f rs j := by
  fun_induction rewriteRows c tname f rs j
  · intro pre news _ _ _
    simp [newRows, View.applyAll]
  · next r rs j ht ih =>
    intro pre news hd hp hf
    have hp' := List.pairwise_cons.1 hp
    have hdel : View.apply (pre ++ r :: rs ++ news) (.del r.rid) = pre ++ rs ++ news := by
      simp only [View.apply, List.filterMap_append, List.filterMap_cons, ARow.apply, if_true]
      rw [filterMap_del_absent r.rid pre (fun x hx => hd r (List.mem_cons_self ..) x (List.mem_append_left _ hx)),
        filterMap_del_absent r.rid rs (fun x hx => fun e => hp'.1 x hx e.symm),
        filterMap_del_absent r.rid news (fun x hx => hd r (List.mem_cons_self ..) x (List.mem_append_right _ hx))]
    have hins : View.apply (pre ++ rs ++ news) (.ins (c, j) tname (f r.vals)) =
        pre ++ rs ++ (news ++ [⟨(c, j), tname, f r.vals⟩]) := by
      simp [View.apply, List.append_assoc]
    rw [View.applyAll, List.foldl_cons, List.foldl_cons, hdel, hins, ← View.applyAll,
      ih pre (news ++ [(⟨(c, j), tname, f r.vals⟩ : ARow)]) ?_ hp'.2 (fun x hx => hf x (List.mem_cons_of_mem _ hx)),
      newRows, if_pos ht, List.filter_cons_of_neg (by rw [ht]; exact fun h => nomatch h)]
    · simp only [List.append_assoc, List.singleton_append]
    · intro x hx y hy
      rcases List.mem_append.1 hy with hy | hy
      · exact hd x (List.mem_cons_of_mem _ hx) y (List.mem_append_left _ hy)
      · rcases List.mem_append.1 hy with hy | hy
        · exact hd x (List.mem_cons_of_mem _ hx) y (List.mem_append_right _ hy)
        · rw [List.mem_singleton.1 hy]
          exact fun e => hf x (List.mem_cons_of_mem _ hx) (by rw [← e])
  · next r rs j ht ih =>
    intro pre news hd hp hf
    have hp' := List.pairwise_cons.1 hp
    have := ih (pre ++ [r]) news ?_ hp'.2 (fun x hx => hf x (List.mem_cons_of_mem _ hx))
    · rw [newRows, if_neg ht, List.filter_cons_of_pos (by simpa using ht)]
      simpa only [List.append_assoc, List.singleton_append] using this
    · intro x hx y hy
      rcases List.mem_append.1 hy with hy | hy
      · rcases List.mem_append.1 hy with hy | hy
        · exact hd x (List.mem_cons_of_mem _ hx) y (List.mem_append_left _ hy)
        · rw [List.mem_singleton.1 hy]; exact hp'.1 x hx
      · exact hd x (List.mem_cons_of_mem _ hx) y (List.mem_append_right _ hy)
end AxVerif.Ddl
