/- Lemmas for the parser part of C05.  The Pratt parser reads back both renderings of an expression, the fully
   parenthesised and the minimal one: the steps of `parse_expr_bp` are stated once for any table, an operand that
   reads back is a notion of its own (`Reads`), and each kind of node is handled once for both printers.  The lexer
   reads back the text of the tokens, one lemma per class of token. -/
import AxVerif.Model.Parser
namespace AxVerif.Parser

def D : Table := docTable

@[simp] theorem dt_or : D.or_ = (1, 2) := rfl
@[simp] theorem dt_and : D.and_ = (3, 4) := rfl
@[simp] theorem dt_eq : D.eq = (5, 6) := rfl
@[simp] theorem dt_neq : D.neq = (5, 6) := rfl
@[simp] theorem dt_lt : D.lt = (5, 6) := rfl
@[simp] theorem dt_gt : D.gt = (5, 6) := rfl
@[simp] theorem dt_le : D.le = (5, 6) := rfl
@[simp] theorem dt_ge : D.ge = (5, 6) := rfl
@[simp] theorem dt_like : D.like = (5, 6) := rfl
@[simp] theorem dt_in : D.in_ = (5, 6) := rfl
@[simp] theorem dt_between : D.between = (5, 6) := rfl
@[simp] theorem dt_is : D.is_ = (5, 6) := rfl
@[simp] theorem dt_plus : D.plus = (7, 8) := rfl
@[simp] theorem dt_minus : D.minus = (7, 8) := rfl
@[simp] theorem dt_star : D.star = (9, 10) := rfl
@[simp] theorem dt_slash : D.slash = (9, 10) := rfl
@[simp] theorem dt_percent : D.percent = (9, 10) := rfl
@[simp] theorem dt_concat : D.concat = (7, 8) := rfl
@[simp] theorem dt_notIn : D.notIn = some (5, 6) := rfl
@[simp] theorem dt_notBetween : D.notBetween = some (5, 6) := rfl
@[simp] theorem dt_notLike : D.notLike = some (5, 6) := rfl
@[simp] theorem dt_notOther : D.notOther = none := rfl
@[simp] theorem dt_comma : D.comma = none := rfl
@[simp] theorem dt_rparen : D.rparen = none := rfl
@[simp] theorem dt_prefixNot : D.prefixNot = 5 := rfl
@[simp] theorem dt_prefixMinus : D.prefixMinus = 11 := rfl
@[simp] theorem dt_prefixPlus : D.prefixPlus = 11 := rfl
@[simp] theorem dt_betweenBound : D.betweenBound = 5 := rfl

def closing : List Tok → Bool
  | [] => true
  | .rparen :: _ => true
  | .comma :: _ => true
  | _ => false

def stops (m : Nat) : List Tok → Bool
  | [] => true
  | t :: r => match infixPower D t r.head? with
    | none => true
    | some (l, _) => l < m

/-- the token after an expression may not turn an identifier into a qualified name or a call -/
def okHead : List Tok → Bool
  | .dot :: _ => false
  | .lparen :: _ => false
  | _ => true

theorem cont_stops (e : PExpr) (m : Nat) (R : List Tok) (h : stops m R = true) :
    ∀ f, 1 ≤ f → parseLoop D f m e R = some (e, R) := by
  intro f hf
  obtain ⟨f, rfl⟩ : ∃ f', f = f' + 1 := ⟨f - 1, by omega⟩
  revert h
  fun_cases stops m R with
  | case1 => exact fun _ => rfl
  -- `t` has no infix power
  | case2 t r hp => exact fun _ => by rw [parseLoop, hp]
  -- `t` has left power `l`
  | case3 t r l _ hp => exact fun h => by rw [parseLoop, hp]; exact if_pos (of_decide_eq_true h)

theorem stops_mono (d d' : Nat) (R : List Tok) (h : stops d R = true) (hd : d ≤ d') : stops d' R = true := by
  revert h
  fun_cases stops d R with
  | case1 => exact fun _ => rfl
  | case2 t r hp => exact fun _ => by rw [stops, hp]
  | case3 t r l _ hp =>
    exact fun h => by rw [stops, hp]; exact decide_eq_true (Nat.lt_of_lt_of_le (of_decide_eq_true h) hd)

theorem closing_stops_okHead (m : Nat) (R : List Tok) (h : closing R = true) : stops m R = true ∧ okHead R = true := by
  unfold closing at h
  split at h
  · exact ⟨rfl, rfl⟩
  · exact ⟨rfl, rfl⟩
  · exact ⟨rfl, rfl⟩
  · cases h

section steps
variable (P : Table)

theorem parseBp_of_prefix {k : Nat} {a : PExpr} {X R : List Tok} (hp : parsePrefix P k X = some (a, R)) (m : Nat) :
    parseBp P (k + 1) m X = parseLoop P k m a R := by
  -- the branch is read off the definition: the equations Lean generates for these functions are slow to check
  show (match parsePrefix P k X with
    | none => none
    | some (lhs, rest) => parseLoop P k m lhs rest) = _
  rw [hp]

theorem parseBp_paren {k : Nat} {e : PExpr} {ts Y : List Tok}
    (h : parseBp P k 0 (ts ++ .rparen :: Y) = some (e, .rparen :: Y)) (m : Nat) :
    parseBp P (k + 2) m (paren ts ++ Y) = parseLoop P (k + 1) m e Y := by
  refine parseBp_of_prefix P ?_ m
  simp only [paren, List.cons_append, List.append_assoc, List.nil_append]
  show (match parseBp P k 0 (ts ++ .rparen :: Y) with
    | some (e, .rparen :: r') => some (e, r')
    | _ => none) = _
  rw [h]

/-- `parse_prefix` on `-`: `- <number>` is a literal, anything else a unary minus -/
theorem parsePrefix_minus {k : Nat} {X : List Tok} (hX : ∀ n, X.head? ≠ some (.num n)) :
    parsePrefix P (k + 1) (.minus :: X) =
      match parseBp P k P.prefixMinus X with
      | some (e, r') => some (.un .neg e, r')
      | none => none := by
  cases X with
  | nil => rfl
  | cons t T =>
    cases t with
    | num n => exact absurd rfl (hX n)
    | _ => rfl

theorem parsePrefix_un {k : Nat} {op : UnOp} {s : PExpr} {X R : List Tok}
    (hX : op = .neg → ∀ n, X.head? ≠ some (.num n))
    (hs : parseBp P k (unPower P op) X = some (s, R)) :
    parsePrefix P (k + 1) (unTok op :: X) = some (.un op s, R) := by
  have key : (match parseBp P k (unPower P op) X with
      | some (e, r') => some (PExpr.un op e, r')
      | none => none) = some (.un op s, R) := by rw [hs]
  cases op
  case neg => exact (parsePrefix_minus P (hX rfl)).trans key
  all_goals exact key

theorem parseLoop_step {k m l r : Nat} {lhs lhs' : PExpr} {t : Tok} {rest rest' : List Tok} {res : PExpr × List Tok}
    (hp : infixPower P t rest.head? = some (l, r)) (hm : m ≤ l)
    (hi : parseInfix P k lhs r t rest = some (lhs', rest'))
    (hc : parseLoop P k m lhs' rest' = some res) :
    parseLoop P (k + 1) m lhs (t :: rest) = some res := by
  rw [parseLoop, hp]
  simp only [Nat.not_lt.mpr hm, if_false, hi]
  exact hc

/-- `parse_infix` on `IS`: `IS NOT` is another operator, anything else starts the right operand -/
theorem parseInfix_is {k rbp : Nat} {l : PExpr} {X : List Tok} (hX : X.head? ≠ some .kNot) :
    parseInfix P (k + 1) l rbp .kIs X =
      match parseBp P k rbp X with
      | some (rhs, r') => some (.bin .is l rhs, r')
      | none => none := by
  cases X with
  | nil => rfl
  | cons t T =>
    cases t with
    | kNot => exact absurd rfl hX
    | _ => rfl

theorem parseInfix_bin {k rbp : Nat} {op : BinOp} {l r : PExpr} {X R : List Tok} {t : Tok} {rest : List Tok}
    (ht : binTok op ++ X = t :: rest) (hX : op = .is → X.head? ≠ some .kNot)
    (hr : parseBp P k rbp X = some (r, R)) :
    parseInfix P (k + 1) l rbp t rest = some (.bin op l r, R) := by
  have key : (match parseBp P k rbp X with
      | some (rhs, r') => some (PExpr.bin op l rhs, r')
      | none => none) = some (.bin op l r, R) := by rw [hr]
  cases op <;> cases ht
  case is => exact (parseInfix_is P (hX rfl)).trans key
  all_goals exact key

def atom : PExpr → Bool
  | .un _ _ | .bin _ _ _ | .between _ _ _ _ | .inList _ _ _ => false
  | _ => true

theorem full_atom (a : PExpr) (ha : atom a = true) : full a = body P a := by
  cases a with
  | un _ _ | bin _ _ _ | between _ _ _ _ | inList _ _ _ => cases ha
  | _ => rfl

theorem prefix_atom (a : PExpr) (ha : atom a = true) (R : List Tok) (hok : okHead R = true) (k : Nat) :
    parsePrefix P (k + 1) (body P a ++ R) = some (a, R) := by
  cases a with
  | un _ _ | bin _ _ _ | between _ _ _ _ | inList _ _ _ => cases ha
  | num i =>
    show parsePrefix P (k + 1) ((if i < 0 then [.minus, .num i.natAbs] else [.num i.toNat]) ++ R) = _
    split
    · show some (PExpr.num (-(i.natAbs : Int)), R) = _
      congr 2; congr 1; omega
    · show some (PExpr.num (i.toNat : Int), R) = _
      congr 2; congr 1; omega
  | bool b => cases b <;> rfl
  | ident s =>
    cases R with
    | nil => rfl
    | cons t T => cases t <;> first | rfl | cases hok
  | _ => rfl

theorem body_atom_pos (a : PExpr) (ha : atom a = true) : 1 ≤ (body P a).length := by
  cases a with
  | un _ _ | bin _ _ _ | between _ _ _ _ | inList _ _ _ => cases ha
  | num i =>
    show 1 ≤ (if i < 0 then [Tok.minus, .num i.natAbs] else [.num i.toNat]).length
    split <;> exact Nat.le_add_left 1 _
  | _ => exact Nat.le_add_left 1 _

end steps

theorem infix_binTok (op : BinOp) (X : List Tok) :
    ∃ t rest, binTok op ++ X = t :: rest ∧ infixPower D t rest.head? = some (binPower D op) := by
  cases op <;> exact ⟨_, _, rfl, rfl⟩

theorem parseList_last {k : Nat} {e : PExpr} {A R : List Tok}
    (h : parseBp D k 0 (A ++ .rparen :: R) = some (e, .rparen :: R)) :
    parseList D (k + 1) (A ++ .rparen :: R) = some ([e], .rparen :: R) := by
  rw [parseList, h]

theorem parseList_more {k : Nat} {e : PExpr} {es : List PExpr} {A L R : List Tok}
    (h : parseBp D k 0 (A ++ .comma :: (L ++ .rparen :: R)) = some (e, .comma :: (L ++ .rparen :: R)))
    (hL : parseList D k (L ++ .rparen :: R) = some (es, .rparen :: R)) :
    parseList D (k + 1) (A ++ .comma :: (L ++ .rparen :: R)) = some (e :: es, .rparen :: R) := by
  rw [parseList, h]
  simp only
  rw [hL]

theorem okHead_binTok (op : BinOp) (X : List Tok) : okHead (binTok op ++ X) = true := by
  cases op <;> rfl

/- The levels of the documented table, as the lemmas below write them: OR 1, AND 3, then 5 = prefix NOT = the left
   power of the comparison level (comparisons, LIKE, IN, BETWEEN, IS; right power 6) = `betweenBound`, the power at
   which the bounds of BETWEEN are parsed; 7 = `plus.1`, the level at which `body` prints those bounds; `* / %` 9;
   11 = the unary signs.  4 stands for "above AND's left power 3": what follows the lower bound of BETWEEN is AND. -/

/-- what must hold of the tokens after an unparenthesised expression for it to be read back as a unit:
    they must stop the parse of its right-most operand, all the way down its right spine -/
def safeU : PExpr → List Tok → Prop
  | .un op s, R => stops (unPower D op) R = true ∧ (level D s < unPower D op ∨ safeU s R)
  | .bin op _ r, R => stops (binPower D op).2 R = true ∧ (level D r < (binPower D op).2 ∨ safeU r R)
  | .between _ _ _ hi, R => stops 5 R = true ∧ (level D hi < 7 ∨ safeU hi R)
  | _, _ => True

/-- The tokens `A` stand for the operand `s` wherever the loop runs at a level up to `c`: whatever the loop,
    continued behind `A` with `s` as its left operand, returns, the parser returns on `A ++ R`, given `n` more units of
    fuel.  `ok` is what the printer has to guarantee of the tokens behind `A`.  Continuation form, because the
    operand may be the left operand of operators that follow.  The printers differ in how they make an operand
    read back (`reads_paren`, `reads_toks`); from there on the four kinds of node are the same for both. -/
def Reads (c n : Nat) (ok : List Tok → Prop) (s : PExpr) (A : List Tok) : Prop :=
  ∀ (m : Nat) (R : List Tok) (res : PExpr × List Tok) (f0 : Nat), m ≤ c → okHead R = true → ok R →
    (∀ f, f0 ≤ f → parseLoop D f m s R = some res) →
    ∀ g, f0 + n ≤ g → parseBp D g m (A ++ R) = some res

section reads
variable {c c' n n' m g : Nat} {ok ok' : List Tok → Prop} {s : PExpr} {A R : List Tok}

theorem Reads.mono (h : Reads c n ok s A) (hc : c' ≤ c) (hn : n ≤ n') (hok : ∀ R, ok' R → ok R) :
    Reads c' n' ok' s A :=
  fun m R res f0 hm hh ho hcont g hg => h m R res f0 (Nat.le_trans hm hc) hh (hok R ho) hcont g (by omega)

theorem Reads.level (h : Reads c n ok s A) (hc : c' ≤ c) : Reads c' n ok s A :=
  h.mono hc (Nat.le_refl n) (fun _ ho => ho)

theorem Reads.fuel (h : Reads c n ok s A) (hn : n ≤ n') : Reads c n' ok s A :=
  h.mono (Nat.le_refl c) hn (fun _ ho => ho)

theorem Reads.stops (h : Reads c n ok s A) (hm : m ≤ c) (hh : okHead R = true) (hok : ok R)
    (hs : stops m R = true) (hg : n + 1 ≤ g) : parseBp D g m (A ++ R) = some (s, R) :=
  h m R (s, R) 1 hm hh hok (cont_stops s m R hs) g (by omega)

theorem reads_atom (a : PExpr) (ha : atom a = true) (c : Nat) : Reads c 1 (fun _ => True) a (body D a) := by
  intro m R res f0 _ hh _ hcont g hg
  cases f0 with
  | zero => exact nomatch hcont 0 (Nat.le_refl 0)
  | succ f0 =>
    obtain ⟨k, rfl⟩ : ∃ k, g = k + 1 + 1 := ⟨g - 2, by omega⟩
    rw [parseBp_of_prefix D (prefix_atom D a ha R hh k)]
    exact hcont (k + 1) (by omega)

theorem reads_paren {e : PExpr} {ts : List Tok}
    (h : ∀ Y g, n ≤ g → parseBp D g 0 (ts ++ .rparen :: Y) = some (e, .rparen :: Y)) (c : Nat) :
    Reads c (n + 2) (fun _ => True) e (paren ts) := by
  intro m R res f0 _ _ _ hcont g hg
  obtain ⟨k, rfl⟩ : ∃ k, g = k + 2 := ⟨g - 2, by omega⟩
  rw [parseBp_paren D (h R k (by omega))]
  exact hcont (k + 1) (by omega)

/- The conditions behind a node are arranged as in `safeU`: the tokens stop the parse of the last operand, and
   are what that operand's printing needs. -/

theorem reads_un (op : UnOp) (hA : Reads (unPower D op) n ok s A)
    (hnum : op = .neg → ∀ R k, (A ++ R).head? ≠ some (.num k)) (c : Nat) :
    Reads c (n + 3) (fun R => stops (unPower D op) R = true ∧ ok R) (.un op s) (unTok op :: A) := by
  intro m R res f0 _ hh hok hcont g hg
  obtain ⟨k, rfl⟩ : ∃ k, g = k + 1 + 1 := ⟨g - 2, by omega⟩
  rw [List.cons_append, parseBp_of_prefix D
    (parsePrefix_un D (fun hop => hnum hop R) (hA.stops (Nat.le_refl _) hh hok.2 hok.1 (by omega)))]
  exact hcont (k + 1) (by omega)

variable {l r e lo hi : PExpr} {Al Ar Ae Alo Ahi L : List Tok} {nl nr ne nlo nhi nL : Nat}
  {okl okr oke oklo okhi : List Tok → Prop}

theorem reads_bin (op : BinOp) (hl : Reads (binPower D op).1 nl okl l Al) (hr : Reads (binPower D op).2 nr okr r Ar)
    (hokl : ∀ X, okl (binTok op ++ X)) (hnot : op = .is → ∀ R, (Ar ++ R).head? ≠ some .kNot) :
    Reads (binPower D op).1 (nl + nr + 3) (fun R => stops (binPower D op).2 R = true ∧ okr R) (.bin op l r)
      (Al ++ binTok op ++ Ar) := by
  intro m R res f0 hm hh hok hcont g hg
  rw [List.append_assoc, List.append_assoc]
  refine hl m _ res (f0 + nr + 3) hm (okHead_binTok op _) (hokl _) (fun f hf => ?_) g (by omega)
  obtain ⟨k, rfl⟩ : ∃ k, f = k + 2 := ⟨f - 2, by omega⟩
  obtain ⟨t, rest, ht, hp⟩ := infix_binTok op (Ar ++ R)
  rw [ht]
  exact parseLoop_step D hp hm
    (parseInfix_bin D ht (fun hop => hnot hop R) (hr.stops (Nat.le_refl _) hh hok.2 hok.1 (by omega)))
    (hcont (k + 1) (by omega))

theorem reads_between (neg : Bool) (he : Reads 5 ne oke e Ae) (hlo : Reads 5 nlo oklo lo Alo) (hhi : Reads 5 nhi okhi hi Ahi)
    (hoke : ∀ X, oke ((if neg then [.kNot, .kBetween] else [.kBetween]) ++ X)) (hoklo : ∀ X, oklo (.kAnd :: X)) :
    Reads 5 (ne + nlo + nhi + 4) (fun R => stops 5 R = true ∧ okhi R) (.between neg e lo hi)
      (Ae ++ (if neg then [.kNot, .kBetween] else [.kBetween]) ++ Alo ++ [.kAnd] ++ Ahi) := by
  intro m R res f0 hm hh hok hcont g hg
  simp only [List.append_assoc, List.cons_append, List.nil_append]
  refine he m _ res (f0 + nlo + nhi + 4) hm (by cases neg <;> rfl) (hoke _) (fun f hf => ?_) g (by omega)
  obtain ⟨k, rfl⟩ : ∃ k, f = k + 3 := ⟨f - 3, by omega⟩
  have hb : parseBetween D (k + 1) neg e (Alo ++ .kAnd :: (Ahi ++ R)) = some (.between neg e lo hi, R) := by
    simp only [parseBetween, dt_betweenBound, hlo.stops (Nat.le_refl 5) rfl (hoklo (Ahi ++ R)) rfl (by omega : nlo + 1 ≤ k),
      hhi.stops (Nat.le_refl 5) hh hok.2 hok.1 (by omega : nhi + 1 ≤ k)]
  cases neg <;> exact parseLoop_step D (l := 5) (r := 6) rfl hm hb (hcont (k + 2) (by omega))

theorem reads_in (neg : Bool) {items : List PExpr} (he : Reads 5 ne oke e Ae)
    (hL : ∀ R g, nL ≤ g → parseList D g (L ++ .rparen :: R) = some (items, .rparen :: R))
    (hoke : ∀ X, oke ((if neg then [.kNot, .kIn, .lparen] else [.kIn, .lparen]) ++ X)) :
    Reads 5 (ne + nL + 2) (fun _ => True) (.inList neg e items)
      (Ae ++ (if neg then [.kNot, .kIn, .lparen] else [.kIn, .lparen]) ++ L ++ [.rparen]) := by
  intro m R res f0 hm _ _ hcont g hg
  simp only [List.append_assoc, List.cons_append, List.nil_append]
  refine he m _ res (f0 + nL + 2) hm (by cases neg <;> rfl) (hoke _) (fun f hf => ?_) g (by omega)
  obtain ⟨k, rfl⟩ : ∃ k, f = k + 2 := ⟨f - 2, by omega⟩
  have hi : (match parseList D k (L ++ .rparen :: R) with
      | some (items, .rparen :: r') => some (PExpr.inList neg e items, r')
      | _ => none) = some (.inList neg e items, R) := by rw [hL R k (by omega)]
  cases neg <;> exact parseLoop_step D (l := 5) (r := 6) rfl hm hi (hcont (k + 1) (by omega))

end reads

/- Fuel that suffices for `full`, node by node: parentheses need 2 more than their contents (`reads_paren`), a unary
   node 3 more than its operand (`reads_un`) and 1 for the loop to stop behind it (`Reads.stops`): 6.  Likewise a binary
   node 2 + 2 + 3 + 1 = 8, BETWEEN 3 · 2 + 4 + 1 = 11, IN 2 + 2 + 1 = 5 and 2 per list element; 10, 14, 10 leave slack,
   any larger numbers would do. -/
mutual
def cost : PExpr → Nat
  | .un _ e => cost e + 6
  | .bin _ l r => cost l + cost r + 10
  | .between _ e lo hi => cost e + cost lo + cost hi + 14
  | .inList _ e items => cost e + costList items + 10
  | _ => 2
def costList : List PExpr → Nat
  | [] => 0
  | e :: es => cost e + costList es + 2
end

theorem full_bin (op : BinOp) (l r : PExpr) : full (.bin op l r) = paren (full l) ++ binTok op ++ paren (full r) := rfl

theorem full_between (neg : Bool) (e lo hi : PExpr) :
    full (.between neg e lo hi) =
      paren (full e) ++ (if neg then [.kNot, .kBetween] else [.kBetween]) ++ paren (full lo) ++ [.kAnd] ++ paren (full hi) :=
  rfl

theorem full_inList (neg : Bool) (e : PExpr) (items : List PExpr) :
    full (.inList neg e items) =
      paren (full e) ++ (if neg then [.kNot, .kIn, .lparen] else [.kIn, .lparen]) ++ fullList items ++ [.rparen] := rfl

theorem fullList_single (e : PExpr) : fullList [e] = full e := List.append_nil _
theorem fullList_cons2 (e e2 : PExpr) (r : List PExpr) :
    fullList (e :: e2 :: r) = full e ++ .comma :: fullList (e2 :: r) := rfl

mutual
/-- what `parse_printFull` (C05) rests on -/
theorem full_rt (e : PExpr) (h : ListsOk e = true) (R : List Tok) (hR : closing R = true)
    (g : Nat) (hg : cost e ≤ g) : parseBp D g 0 (full e ++ R) = some (e, R) := by
  have hst := fun m => (closing_stops_okHead m R hR).1
  have hh := (closing_stops_okHead 0 R hR).2
  cases e with
  | un op s =>
    replace hg : cost s + 6 ≤ g := hg
    exact (reads_un op (reads_paren (fun Y => full_rt s h (.rparen :: Y) rfl) _) (fun _ _ _ h => by cases h) 0).stops
      (Nat.le_refl 0) hh ⟨hst _, trivial⟩ (hst 0) (by omega)
  | bin op l r =>
    replace h := Bool.and_eq_true_iff.mp h
    replace hg : cost l + cost r + 10 ≤ g := hg
    exact (reads_bin op (reads_paren (fun Y => full_rt l h.1 (.rparen :: Y) rfl) _)
      (reads_paren (fun Y => full_rt r h.2 (.rparen :: Y) rfl) _) (fun _ => trivial) (fun _ _ h => by cases h)).stops
      (Nat.zero_le _) hh ⟨hst _, trivial⟩ (hst 0) (by omega)
  | between neg e lo hi =>
    replace h := Bool.and_eq_true_iff.mp h
    replace h := And.intro (Bool.and_eq_true_iff.mp h.1) h.2
    replace hg : cost e + cost lo + cost hi + 14 ≤ g := hg
    exact (reads_between neg (reads_paren (fun Y => full_rt e h.1.1 (.rparen :: Y) rfl) 5)
      (reads_paren (fun Y => full_rt lo h.1.2 (.rparen :: Y) rfl) 5)
      (reads_paren (fun Y => full_rt hi h.2 (.rparen :: Y) rfl) 5) (fun _ => trivial) (fun _ => trivial)).stops
      (Nat.zero_le _) hh ⟨hst _, trivial⟩ (hst 0) (by omega)
  | inList neg e items =>
    replace h := Bool.and_eq_true_iff.mp h
    replace h := And.intro (Bool.and_eq_true_iff.mp h.1) h.2
    simp only [Bool.not_eq_true', List.isEmpty_eq_false_iff] at h
    replace hg : cost e + costList items + 10 ≤ g := hg
    exact (reads_in neg (reads_paren (fun Y => full_rt e h.1.1 (.rparen :: Y) rfl) 5)
      (fullList_rt items h.1.2 h.2) (fun _ => trivial)).stops (Nat.zero_le _) hh trivial (hst 0) (by omega)
  | num _ | str _ | bool _ | null | ident _ | qident _ _ =>
    rw [full_atom D _ rfl]
    exact (reads_atom _ rfl 0).stops (Nat.le_refl 0) hh trivial (hst 0) hg

theorem fullList_rt (es : List PExpr) (hne : es ≠ []) (h : ListsOkList es = true) (R : List Tok)
    (g : Nat) (hg : costList es ≤ g) :
    parseList D g (fullList es ++ .rparen :: R) = some (es, .rparen :: R) := by
  cases es with
  | nil => exact absurd rfl hne
  | cons e rest =>
    replace h := Bool.and_eq_true_iff.mp h
    replace hg : cost e + costList rest + 2 ≤ g := hg
    obtain ⟨k, rfl⟩ : ∃ k, g = k + 1 := ⟨g - 1, by omega⟩
    cases rest with
    | nil =>
      rw [fullList_single]
      exact parseList_last (full_rt e h.1 _ rfl k (by omega))
    | cons e2 rest2 =>
      rw [fullList_cons2, List.append_assoc, List.cons_append]
      exact parseList_more (full_rt e h.1 _ rfl k (by omega))
        (fullList_rt (e2 :: rest2) (List.cons_ne_nil _ _) h.2 R k (by omega))
end

theorem rbp_eq_lbp_succ (op : BinOp) : (binPower D op).2 = (binPower D op).1 + 1 := by
  cases op <;> rfl

theorem lbp_le_leftCtx (op : BinOp) : (binPower D op).1 ≤ leftCtx D op := by
  rw [leftCtx]; split
  · rw [rbp_eq_lbp_succ]; exact Nat.le_succ _
  · exact Nat.le_refl _

theorem leftCtx_le_rbp (op : BinOp) : leftCtx D op ≤ (binPower D op).2 := by
  rw [leftCtx]; split
  · exact Nat.le_refl _
  · rw [rbp_eq_lbp_succ]; exact Nat.le_succ _

/-- the powers 5 (prefix NOT, the bounds of BETWEEN) and 11 (unary signs) are not the left power of an operator
    that is printed associatively -/
theorem lbp_ne_prefix (op : BinOp) : cmpLevel op = true ∨ ((binPower D op).1 ≠ 5 ∧ (binPower D op).1 ≠ 11) := by
  cases op <;> decide

/-- so an operand of such a level that stands unparenthesised to the left of `op` is followed by a weaker operator -/
theorem lbp_lt_of_leftCtx_le (op : BinOp) (L : Nat) (hL : L = 5 ∨ L = 11) (h : leftCtx D op ≤ L) : (binPower D op).1 < L := by
  rw [leftCtx] at h
  split at h
  · rw [rbp_eq_lbp_succ] at h; exact h
  · next hc =>
    rcases lbp_ne_prefix op with hc' | ⟨h5, h11⟩
    · exact absurd hc' hc
    · rcases hL with rfl | rfl
      · exact Nat.lt_of_le_of_ne h h5
      · exact Nat.lt_of_le_of_ne h h11

theorem unPower_cases (op : UnOp) : unPower D op = 5 ∨ unPower D op = 11 := by
  cases op
  · exact Or.inr rfl
  · exact Or.inr rfl
  · exact Or.inl rfl

theorem lbp_lt_sign (op : BinOp) : (binPower D op).1 < unPower D .neg := by
  cases op <;> decide

theorem stops_binTok (op : BinOp) (d : Nat) (X : List Tok) (h : (binPower D op).1 < d) :
    stops d (binTok op ++ X) = true := by
  obtain ⟨t, rest, ht, hp⟩ := infix_binTok op X
  rw [ht, stops, hp]
  exact decide_eq_true h

theorem safe_of_stops (e : PExpr) (d c : Nat) (R : List Tok) (hs : stops d R = true) (hd : d ≤ c) :
    (level D e < c ∨ safeU e R) := by
  refine (Nat.lt_or_ge _ _).imp_right fun hl => ?_
  have hdl := Nat.le_trans hd hl
  cases e with
  | un op s => exact ⟨stops_mono d _ R hs hdl, safe_of_stops s d _ R hs hdl⟩
  | bin op l r =>
    have hp : d ≤ (binPower D op).2 := by rw [rbp_eq_lbp_succ]; exact Nat.le_succ_of_le hdl
    exact ⟨stops_mono d _ R hs hp, safe_of_stops r d _ R hs hp⟩
  | between neg e lo hi =>
    exact ⟨stops_mono d 5 R hs hdl, safe_of_stops hi d 7 R hs (Nat.le_trans hdl (show 5 ≤ 7 by decide))⟩
  | _ => trivial

theorem safe_of_stops0 (e : PExpr) (R : List Tok) (hs : stops 0 R = true) : safeU e R :=
  (safe_of_stops e 0 0 R hs (Nat.le_refl 0)).resolve_left (Nat.not_lt_zero _)

theorem safe_left (l : PExpr) (op : BinOp) (X : List Tok) :
    level D l < leftCtx D op ∨ safeU l (binTok op ++ X) := by
  refine (Nat.lt_or_ge _ _).imp_right fun hl => ?_
  have hst : ∀ d, (binPower D op).1 < d → stops d (binTok op ++ X) = true := fun d => stops_binTok op d X
  have hS : ∀ s c, (binPower D op).1 < c → level D s < c ∨ safeU s (binTok op ++ X) := fun s c hc =>
    safe_of_stops s _ c _ (hst _ (Nat.lt_succ_self _)) hc
  cases l with
  | un op1 s1 =>
    have hf := lbp_lt_of_leftCtx_le op _ (unPower_cases op1) hl
    exact ⟨hst _ hf, hS s1 _ hf⟩
  | bin op1 l1 r1 =>
    have hf : (binPower D op).1 < (binPower D op1).2 := by
      rw [rbp_eq_lbp_succ]; exact Nat.lt_succ_of_le (Nat.le_trans (lbp_le_leftCtx op) hl)
    exact ⟨hst _ hf, hS r1 _ hf⟩
  | between neg e lo hi =>
    have hf := lbp_lt_of_leftCtx_le op 5 (Or.inl rfl) hl
    exact ⟨hst _ hf, hS hi 7 (Nat.lt_trans hf (by decide))⟩
  | _ => trivial

/- The same for `body`, whose operands take 4 instead of 2 (`reads_toks`): 7, 11, 16, 6 are needed, the constants leave
   slack.  What has to be met is `parseExpr`'s fuel `32 * length + 32` (`costM_le_len`). -/
mutual
def costM : PExpr → Nat
  | .un _ e => costM e + 12
  | .bin _ l r => costM l + costM r + 20
  | .between _ e lo hi => costM e + costM lo + costM hi + 30
  | .inList _ e items => costM e + costMList items + 20
  | _ => 4
def costMList : List PExpr → Nat
  | [] => 0
  | e :: es => costM e + costMList es + 8
end

theorem toks_cases (c : Nat) (e : PExpr) :
    level D e < c ∧ toks D c e = paren (body D e) ∨ ¬ level D e < c ∧ toks D c e = body D e := by
  by_cases h : level D e < c
  · exact Or.inl ⟨h, by rw [toks, decide_eq_true h]; rfl⟩
  · exact Or.inr ⟨h, by rw [toks, decide_eq_false h]; rfl⟩

/-- in parentheses the body is read at level 0 up to `)`, behind which every expression is safe; without them the
    level of `e` is at least `c` -/
theorem reads_toks {e : PExpr} (h : Reads (level D e) (costM e) (safeU e) e (body D e)) (c : Nat) :
    Reads c (costM e + 4) (fun R => level D e < c ∨ safeU e R) e (toks D c e) := by
  rcases toks_cases c e with ⟨hl, ht⟩ | ⟨hl, ht⟩ <;> rw [ht]
  · exact (reads_paren (fun Y g hg => h.stops (Nat.zero_le _) rfl (safe_of_stops0 e _ rfl) rfl hg) c).mono
      (Nat.le_refl c) (by omega) (fun _ _ => trivial)
  · exact h.mono (Nat.le_of_not_lt hl) (Nat.le_add_right _ 4) (fun _ ho => ho.resolve_left hl)

theorem body_un (op : UnOp) (s : PExpr) : body D (.un op s) = unTok op :: toks D (unPower D op) s := rfl

theorem body_bin (op : BinOp) (l r : PExpr) :
    body D (.bin op l r) = toks D (leftCtx D op) l ++ binTok op ++ toks D (binPower D op).2 r := rfl

theorem body_between (neg : Bool) (e lo hi : PExpr) :
    body D (.between neg e lo hi) =
      toks D 6 e ++ (if neg then [.kNot, .kBetween] else [.kBetween]) ++ toks D 7 lo ++ [.kAnd] ++ toks D 7 hi := rfl

theorem body_inList (neg : Bool) (e : PExpr) (items : List PExpr) :
    body D (.inList neg e items) =
      toks D 6 e ++ (if neg then [.kNot, .kIn, .lparen] else [.kIn, .lparen]) ++ bodyList D items ++ [.rparen] := rfl

theorem head_not_kNot (e : PExpr) (c : Nat) (hc : 6 ≤ c) (R : List Tok) : (toks D c e ++ R).head? ≠ some .kNot := by
  rcases toks_cases c e with ⟨hl, ht⟩ | ⟨hl, ht⟩ <;> rw [ht]
  · exact fun h => by cases h
  · have hl6 : 6 ≤ level D e := Nat.le_trans hc (Nat.le_of_not_lt hl)
    cases e with
    | num i =>
      show ((if i < 0 then [Tok.minus, .num i.natAbs] else [.num i.toNat]) ++ R).head? ≠ _
      split <;> exact fun h => by cases h
    | bool b => cases b <;> exact fun h => by cases h
    | un op s =>
      cases op
      case not => exact absurd hl6 (show ¬ 6 ≤ 5 by decide)
      all_goals exact fun h => by cases h
    | bin op l r =>
      rw [body_bin, List.append_assoc, List.append_assoc]
      exact head_not_kNot l (leftCtx D op) (Nat.le_trans hl6 (lbp_le_leftCtx op)) _
    | between neg e lo hi => exact absurd hl6 (show ¬ 6 ≤ 5 by decide)
    | inList neg e items => exact absurd hl6 (show ¬ 6 ≤ 5 by decide)
    | _ => exact fun h => by cases h

theorem head_not_num (s : PExpr) (hs : ∀ k : Int, s = .num k → k < 0) (R : List Tok) (n : Nat) :
    (toks D (unPower D .neg) s ++ R).head? ≠ some (.num n) := by
  rcases toks_cases (unPower D .neg) s with ⟨hl, ht⟩ | ⟨hl, ht⟩ <;> rw [ht]
  · exact fun h => by cases h
  · cases s with
    | num i =>
      show ((if i < 0 then [Tok.minus, .num i.natAbs] else [.num i.toNat]) ++ R).head? ≠ _
      rw [if_pos (hs i rfl)]; exact fun h => by cases h
    | bool b => cases b <;> exact fun h => by cases h
    | un op s => cases op <;> exact fun h => by cases h
    | bin op l r => exact absurd (lbp_lt_sign op) hl
    | between neg e lo hi => exact absurd (show (5 : Nat) < 11 by decide) hl
    | inList neg e items => exact absurd (show (5 : Nat) < 11 by decide) hl
    | _ => exact fun h => by cases h

theorem printable_un (op : UnOp) (s : PExpr) (h : Printable (.un op s) = true) :
    Printable s = true ∧ (op = .neg → ∀ k : Int, s = .num k → k < 0) := by
  cases op
  case neg =>
    cases s with
    | num k => exact ⟨rfl, fun _ k' hk => by cases hk; exact of_decide_eq_true h⟩
    | _ => exact ⟨h, fun _ k hk => by cases hk⟩
  all_goals exact ⟨h, fun hop => by cases hop⟩

theorem bodyList_single (e : PExpr) : bodyList D [e] = body D e := List.append_nil _
theorem bodyList_cons2 (e e2 : PExpr) (r : List PExpr) :
    bodyList D (e :: e2 :: r) = body D e ++ .comma :: bodyList D (e2 :: r) := rfl

mutual
/-- what `parse_printMin` (C05) rests on -/
theorem body_rt (e : PExpr) (h : Printable e = true) : Reads (level D e) (costM e) (safeU e) e (body D e) := by
  cases e with
  | un op s =>
    have hp := printable_un op s h
    exact (reads_un op (reads_toks (body_rt s hp.1) _)
      (fun hop R k => by subst hop; exact head_not_num s (hp.2 rfl) R k) _).fuel
      (show _ ≤ costM s + 12 by omega)
  | bin op l r =>
    replace h := Bool.and_eq_true_iff.mp h
    exact (reads_bin op ((reads_toks (body_rt l h.1) _).level (lbp_le_leftCtx op))
      (reads_toks (body_rt r h.2) _) (safe_left l op)
      (fun hop R => by subst hop; exact head_not_kNot r 6 (Nat.le_refl 6) R)).fuel
      (show _ ≤ costM l + costM r + 20 by omega)
  | between neg e lo hi =>
    replace h := Bool.and_eq_true_iff.mp h
    replace h := And.intro (Bool.and_eq_true_iff.mp h.1) h.2
    exact (reads_between neg
      ((reads_toks (body_rt e h.1.1) 6).level (Nat.le_succ 5))
      ((reads_toks (body_rt lo h.1.2) 7).level (by decide))
      ((reads_toks (body_rt hi h.2) 7).level (by decide))
      (fun X => safe_of_stops e 6 6 _ (by cases neg <;> rfl) (Nat.le_refl 6))
      (fun X => safe_of_stops lo 4 7 _ rfl (by decide))).fuel
      (show _ ≤ costM e + costM lo + costM hi + 30 by omega)
  | inList neg e items =>
    replace h := Bool.and_eq_true_iff.mp h
    replace h := And.intro (Bool.and_eq_true_iff.mp h.1) h.2
    simp only [Bool.not_eq_true', List.isEmpty_eq_false_iff] at h
    exact (reads_in neg ((reads_toks (body_rt e h.1.1) 6).level (Nat.le_succ 5))
      (bodyList_rt items h.1.2 h.2)
      (fun X => safe_of_stops e 6 6 _ (by cases neg <;> rfl) (Nat.le_refl 6))).fuel
      (show _ ≤ costM e + costMList items + 20 by omega)
  | num _ | str _ | bool _ | null | ident _ | qident _ _ =>
    exact (reads_atom _ rfl _).fuel (show 1 ≤ 4 by decide)

theorem bodyList_rt (es : List PExpr) (hne : es ≠ []) (h : PrintableList es = true) (R : List Tok)
    (g : Nat) (hg : costMList es ≤ g) :
    parseList D g (bodyList D es ++ .rparen :: R) = some (es, .rparen :: R) := by
  cases es with
  | nil => exact absurd rfl hne
  | cons e rest =>
    replace h := Bool.and_eq_true_iff.mp h
    replace hg : costM e + costMList rest + 8 ≤ g := hg
    obtain ⟨k, rfl⟩ : ∃ k, g = k + 1 := ⟨g - 1, by omega⟩
    have hB : ∀ R', stops 0 R' = true → okHead R' = true → parseBp D k 0 (body D e ++ R') = some (e, R') :=
      fun R' hs hok => (body_rt e h.1).stops (Nat.zero_le _) hok (safe_of_stops0 e R' hs) hs (by omega)
    cases rest with
    | nil =>
      rw [bodyList_single]
      exact parseList_last (hB _ rfl rfl)
    | cons e2 rest2 =>
      rw [bodyList_cons2, List.append_assoc, List.cons_append]
      exact parseList_more (hB _ rfl rfl) (bodyList_rt (e2 :: rest2) (List.cons_ne_nil _ _) h.2 R k (by omega))
end

mutual
theorem cost_le_len (e : PExpr) : cost e + 6 ≤ 8 * (full e).length := by
  cases e with
  | un op s =>
    have := cost_le_len s
    show cost s + 6 + 6 ≤ 8 * (unTok op :: paren (full s)).length
    simp only [paren, List.length_cons, List.length_append, List.length_nil]
    omega
  | bin op l r =>
    have h1 := cost_le_len l
    have h2 := cost_le_len r
    show cost l + cost r + 10 + 6 ≤ _
    simp only [full_bin, paren, List.length_cons, List.length_append, List.length_nil]
    omega
  | between neg e lo hi =>
    have h1 := cost_le_len e
    have h2 := cost_le_len lo
    have h3 := cost_le_len hi
    show cost e + cost lo + cost hi + 14 + 6 ≤ _
    simp only [full_between, paren, List.length_cons, List.length_append, List.length_nil]
    omega
  | inList neg e items =>
    have h1 := cost_le_len e
    have h2 := costList_le_len items
    show cost e + costList items + 10 + 6 ≤ _
    simp only [full_inList, paren, List.length_cons, List.length_append, List.length_nil]
    omega
  | num _ | str _ | bool _ | null | ident _ | qident _ _ =>
    rw [full_atom D _ rfl]
    exact Nat.mul_le_mul_left 8 (body_atom_pos D _ rfl)

theorem costList_le_len (es : List PExpr) : costList es ≤ 8 * (fullList es).length := by
  cases es with
  | nil => exact Nat.zero_le _
  | cons e rest =>
    have h1 := cost_le_len e
    cases rest with
    | nil =>
      rw [fullList_single]
      show cost e + 0 + 2 ≤ _
      omega
    | cons e2 rest2 =>
      have h2 := costList_le_len (e2 :: rest2)
      rw [fullList_cons2]
      show cost e + costList (e2 :: rest2) + 2 ≤ _
      simp only [List.length_cons, List.length_append] at h2 ⊢
      omega
end

theorem toks_length_ge (c : Nat) (e : PExpr) : (body D e).length ≤ (toks D c e).length := by
  rcases toks_cases c e with ⟨_, ht⟩ | ⟨_, ht⟩ <;> rw [ht]
  · simp only [paren, List.length_cons, List.length_append]
    omega
  · exact Nat.le_refl _

mutual
theorem costM_le_len (e : PExpr) : costM e + 8 ≤ 32 * (body D e).length := by
  cases e with
  | un op s =>
    have h1 := costM_le_len s
    have h2 := toks_length_ge (unPower D op) s
    rw [body_un]
    show costM s + 12 + 8 ≤ _
    simp only [List.length_cons]
    omega
  | bin op l r =>
    have h1 := costM_le_len l
    have h2 := costM_le_len r
    have h3 := toks_length_ge (leftCtx D op) l
    have h4 := toks_length_ge (binPower D op).2 r
    have h5 : 1 ≤ (binTok op).length := by cases op <;> decide
    rw [body_bin]
    show costM l + costM r + 20 + 8 ≤ _
    simp only [List.length_append]
    omega
  | between neg e lo hi =>
    have h1 := costM_le_len e
    have h2 := costM_le_len lo
    have h3 := costM_le_len hi
    have h4 := toks_length_ge 6 e
    have h5 := toks_length_ge 7 lo
    have h6 := toks_length_ge 7 hi
    rw [body_between]
    show costM e + costM lo + costM hi + 30 + 8 ≤ _
    simp only [List.length_append, List.length_cons, List.length_nil]
    omega
  | inList neg e items =>
    have h1 := costM_le_len e
    have h2 := costMList_le_len items
    have h4 := toks_length_ge 6 e
    rw [body_inList]
    show costM e + costMList items + 20 + 8 ≤ _
    simp only [List.length_append, List.length_cons, List.length_nil]
    omega
  | num _ | str _ | bool _ | null | ident _ | qident _ _ =>
    exact Nat.le_trans (show 4 + 8 ≤ 32 * 1 by decide) (Nat.mul_le_mul_left 32 (body_atom_pos D _ rfl))

theorem costMList_le_len (es : List PExpr) : costMList es ≤ 32 * (bodyList D es).length := by
  cases es with
  | nil => exact Nat.zero_le _
  | cons e rest =>
    have h1 := costM_le_len e
    cases rest with
    | nil =>
      rw [bodyList_single]
      show costM e + 0 + 8 ≤ _
      omega
    | cons e2 rest2 =>
      have h2 := costMList_le_len (e2 :: rest2)
      rw [bodyList_cons2]
      show costM e + costMList (e2 :: rest2) + 8 ≤ _
      simp only [List.length_cons, List.length_append] at h2 ⊢
      omega
end

theorem wrapIf_printable (c : Bool) (ts : List Tok) (h : ∀ t ∈ ts, PrintableTok t = true) :
    ∀ t ∈ wrapIf c ts, PrintableTok t = true := by
  cases c
  · exact h
  · exact List.forall_mem_cons.mpr ⟨rfl, List.forall_mem_append.mpr ⟨h, List.all_eq_true.mp rfl⟩⟩

theorem binTok_printable (op : BinOp) : ∀ t ∈ binTok op, PrintableTok t = true := by
  cases op <;> exact List.all_eq_true.mp rfl

mutual
theorem body_printable (e : PExpr) (h : IdentsOk e = true) : ∀ t ∈ body D e, PrintableTok t = true := by
  cases e with
  | num i =>
    show ∀ t ∈ (if i < 0 then [Tok.minus, .num i.natAbs] else [.num i.toNat]), _
    split <;> exact List.all_eq_true.mp rfl
  | str s => exact List.all_eq_true.mp rfl
  | bool b => cases b <;> exact List.all_eq_true.mp rfl
  | null => exact List.all_eq_true.mp rfl
  | ident s => exact List.forall_mem_singleton.mpr h
  | qident a b =>
    replace h := Bool.and_eq_true_iff.mp h
    exact List.forall_mem_cons.mpr ⟨h.1, List.forall_mem_cons.mpr ⟨rfl, List.forall_mem_singleton.mpr h.2⟩⟩
  | un op s =>
    exact List.forall_mem_cons.mpr ⟨by cases op <;> rfl, wrapIf_printable _ _ (body_printable s h)⟩
  | bin op l r =>
    replace h := Bool.and_eq_true_iff.mp h
    exact List.forall_mem_append.mpr ⟨List.forall_mem_append.mpr
      ⟨wrapIf_printable _ _ (body_printable l h.1), binTok_printable op⟩, wrapIf_printable _ _ (body_printable r h.2)⟩
  | between neg e lo hi =>
    replace h := Bool.and_eq_true_iff.mp h
    replace h := And.intro (Bool.and_eq_true_iff.mp h.1) h.2
    exact List.forall_mem_append.mpr ⟨List.forall_mem_append.mpr ⟨List.forall_mem_append.mpr ⟨List.forall_mem_append.mpr
      ⟨wrapIf_printable _ _ (body_printable e h.1.1), by cases neg <;> exact List.all_eq_true.mp rfl⟩,
      wrapIf_printable _ _ (body_printable lo h.1.2)⟩, List.all_eq_true.mp rfl⟩, wrapIf_printable _ _ (body_printable hi h.2)⟩
  | inList neg e items =>
    replace h := Bool.and_eq_true_iff.mp h
    exact List.forall_mem_append.mpr ⟨List.forall_mem_append.mpr ⟨List.forall_mem_append.mpr
      ⟨wrapIf_printable _ _ (body_printable e h.1), by cases neg <;> exact List.all_eq_true.mp rfl⟩,
      bodyList_printable items h.2⟩, List.all_eq_true.mp rfl⟩

theorem bodyList_printable (es : List PExpr) (h : IdentsOkList es = true) :
    ∀ t ∈ bodyList D es, PrintableTok t = true := by
  cases es with
  | nil => exact fun _ ht => absurd ht List.not_mem_nil
  | cons e rest =>
    replace h := Bool.and_eq_true_iff.mp h
    cases rest with
    | nil =>
      rw [bodyList_single]
      exact body_printable e h.1
    | cons e2 r2 =>
      rw [bodyList_cons2]
      exact List.forall_mem_append.mpr ⟨body_printable e h.1,
        List.forall_mem_cons.mpr ⟨rfl, bodyList_printable (e2 :: r2) h.2⟩⟩
end

def endOrBlank : List Nat → Bool
  | [] => true
  | 32 :: _ => true
  | _ => false

theorem endOrBlank_cases (rest : List Nat) (h : endOrBlank rest = true) : rest = [] ∨ ∃ r, rest = 32 :: r := by
  unfold endOrBlank at h
  split at h
  · exact Or.inl rfl
  · exact Or.inr ⟨_, rfl⟩
  · cases h

theorem takeWhileN_append (p : Nat → Bool) (a rest : List Nat) (ha : ∀ c ∈ a, p c = true)
    (h32 : p 32 = false) (hr : endOrBlank rest = true) : takeWhileN p (a ++ rest) = (a, rest) := by
  induction a with
  | nil =>
    rcases endOrBlank_cases rest hr with rfl | ⟨r, rfl⟩
    · rfl
    · simp only [List.nil_append, takeWhileN, h32, Bool.false_eq_true, if_false]
  | cons x xs ih =>
    simp only [List.cons_append, takeWhileN, ha x List.mem_cons_self, if_true,
      ih fun c hc => ha c (List.mem_cons_of_mem x hc)]

theorem natDigits_all (n : Nat) : ∀ c ∈ natDigits n, isDigit c = true := by
  fun_induction natDigits n with
  | case1 n h => intro c hc; simp at hc; subst hc; simp [isDigit]; omega
  | case2 n h ih =>
    intro c hc
    rcases List.mem_append.mp hc with h1 | h1
    · exact ih c h1
    · simp at h1; subst h1; simp [isDigit]; omega

theorem natDigits_ne_nil (n : Nat) : natDigits n ≠ [] := by
  fun_induction natDigits n <;> simp

theorem digitsVal_append (ds : List Nat) (d : Nat) : digitsVal (ds ++ [d]) = digitsVal ds * 10 + (d - 48) := by
  simp [digitsVal, List.foldl_append]

theorem digitsVal_natDigits (n : Nat) : digitsVal (natDigits n) = n := by
  fun_induction natDigits n with
  | case1 n h => simp [digitsVal]
  | case2 n h ih => rw [digitsVal_append, ih]; omega

theorem digit_not_space (c : Nat) (h : isDigit c = true) : isSpace c = false := by
  simp only [isSpace, isDigit, Bool.and_eq_true, decide_eq_true_eq] at h ⊢
  simp only [Bool.or_eq_false_iff, beq_eq_false_iff_ne]; omega

theorem lex_num (n : Nat) (rest : List Nat) (hr : endOrBlank rest = true) (f : Nat) :
    lex (f + 1) (natDigits n ++ rest) = (lex f rest).map (Tok.num n :: ·) := by
  have htw := takeWhileN_append isDigit (natDigits n) rest (natDigits_all n) rfl hr
  cases hd : natDigits n with
  | nil => exact absurd hd (natDigits_ne_nil n)
  | cons d ds =>
    have hdig : isDigit d = true := natDigits_all n d (hd ▸ List.mem_cons_self)
    rw [hd] at htw
    rw [List.cons_append] at htw ⊢
    show (if isSpace d = true then _ else if isDigit d = true then _ else _) = _
    rw [if_neg (Bool.eq_false_iff.mp (digit_not_space d hdig)), if_pos hdig, htw, ← hd]
    rcases endOrBlank_cases rest hr with rfl | ⟨r, rfl⟩ <;>
      exact congrArg (fun v => (lex f _).map (Tok.num v :: ·)) (digitsVal_natDigits n)

theorem lexString_escape (s rest : List Nat) (hr : endOrBlank rest = true) :
    lexString (escapeQuotes s ++ 39 :: rest) = (s, rest) := by
  fun_induction escapeQuotes s with
  | case1 => rcases endOrBlank_cases rest hr with rfl | ⟨r, rfl⟩ <;> rfl
  -- a quote: written twice
  | case2 cs ih => rw [List.cons_append, List.cons_append, lexString, ih]
  | case3 c cs hc ih =>
    -- the two patterns of `lexString` that start with a quote do not apply
    rw [List.cons_append, lexString, ih]
    · exact fun _ h _ => hc h
    · exact hc

theorem lex_str (s rest : List Nat) (hr : endOrBlank rest = true) (f : Nat) :
    lex (f + 1) (39 :: (escapeQuotes s ++ 39 :: rest)) = (lex f rest).map (Tok.str s :: ·) := by
  show (match lexString (escapeQuotes s ++ 39 :: rest) with
    | (s, rest) => (lex f rest).map (Tok.str s :: ·)) = _
  rw [lexString_escape s rest hr]

theorem alpha_not_space_digit (c : Nat) (h : (isAlpha c || c == 95) = true) :
    isSpace c = false ∧ isDigit c = false := by
  simp only [isAlpha, isSpace, isDigit, Bool.or_eq_true, Bool.and_eq_true, decide_eq_true_eq, beq_iff_eq] at h ⊢
  constructor
  · simp only [Bool.or_eq_false_iff, beq_eq_false_iff_ne]; omega
  · simp only [Bool.and_eq_false_iff, decide_eq_false_iff_not]; omega

theorem lex_word (c : Nat) (cs rest : List Nat) (hc : (isAlpha c || c == 95) = true)
    (hall : (c :: cs).all isIdentChar = true) (hr : endOrBlank rest = true) (f : Nat) :
    lex (f + 1) (c :: cs ++ rest) = (lex f rest).map (keyword (c :: cs) :: ·) := by
  have hns := alpha_not_space_digit c hc
  have htw := takeWhileN_append isIdentChar (c :: cs) rest (List.all_eq_true.mp hall) rfl hr
  rw [List.cons_append] at htw ⊢
  show (if isSpace c = true then _ else if isDigit c = true then _
    else if (isAlpha c || c == 95) = true then _ else _) = _
  rw [if_neg (Bool.eq_false_iff.mp hns.1), if_neg (Bool.eq_false_iff.mp hns.2), if_pos hc, htw]

theorem lex_tok (t : Tok) (ht : PrintableTok t = true) (rest : List Nat) (hr : endOrBlank rest = true) (f : Nat) :
    lex (f + 1) (tokText t ++ rest) = (lex f rest).map (t :: ·) := by
  cases t with
  | num n => exact lex_num n rest hr f
  | str s =>
    rw [tokText, List.cons_append, List.append_assoc]
    exact lex_str s rest hr f
  | ident s =>
    cases s with
    | nil => cases ht
    | cons c cs =>
      simp only [PrintableTok, Bool.and_eq_true, beq_iff_eq] at ht
      have h := lex_word c cs rest ht.1.1 ht.1.2 hr f
      rwa [ht.2] at h
  | other s => cases ht
  | kTrue | kFalse | kNull | kAnd | kOr | kNot | kLike | kIn | kBetween | kIs =>
    exact lex_word _ _ rest rfl rfl hr f
  -- a symbol is decided by its first character, `-`, `<`, `>` after a look at the next one
  | lparen | rparen | comma | dot | eq | neq | lt | gt | le | ge | plus | minus | star | slash | percent | concat =>
    rcases endOrBlank_cases rest hr with rfl | ⟨r, rfl⟩ <;> rfl

theorem tokText_ne_nil (t : Tok) (ht : PrintableTok t = true) : tokText t ≠ [] := by
  cases t with
  | num n => exact natDigits_ne_nil n
  | ident s => cases s with
    | nil => cases ht
    | cons c cs => exact List.cons_ne_nil c cs
  | other s => cases ht
  | _ => exact List.cons_ne_nil _ _


theorem lex_blank (f : Nat) (cs : List Nat) : lex (f + 1) (32 :: cs) = lex f cs := rfl

theorem lex_render_fuel (ts : List Tok) (h : ∀ t ∈ ts, PrintableTok t = true) :
    ∀ f, (render ts).length < f → lex f (render ts) = some ts := by
  fun_induction render ts with
  | case1 =>
    intro f hf
    obtain ⟨f', rfl⟩ : ∃ f', f = f' + 1 := ⟨f - 1, by omega⟩
    rfl
  -- `[t]`
  | case2 t =>
    intro f hf
    have ht := h t List.mem_cons_self
    have hpos := List.length_pos_iff.mpr (tokText_ne_nil t ht)
    obtain ⟨f', rfl⟩ : ∃ f', f = f' + 2 := ⟨f - 2, by omega⟩
    rw [← List.append_nil (tokText t), lex_tok t ht [] rfl (f' + 1)]
    rfl
  -- `t :: ts` with `ts ≠ []`
  | case3 t ts hne ih =>
    intro f hf
    have ht := h t List.mem_cons_self
    have hpos := List.length_pos_iff.mpr (tokText_ne_nil t ht)
    rw [List.length_append, List.length_cons] at hf
    obtain ⟨f', rfl⟩ : ∃ f', f = f' + 2 := ⟨f - 2, by omega⟩
    rw [lex_tok t ht _ rfl (f' + 1), lex_blank, ih (fun x hx => h x (List.mem_cons_of_mem t hx)) f' (by omega)]
    rfl

theorem lex_render (ts : List Tok) (h : ∀ t ∈ ts, PrintableTok t = true) : lexAll (render ts) = some ts :=
  lex_render_fuel ts h _ (Nat.lt_succ_self _)

end AxVerif.Parser
