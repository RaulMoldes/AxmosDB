/-
  Lemmas for C09 (`Thm/C09.lean`).

  The restarting machine and the never-restarting machine are compared through an *erasure* `E k` of a state of the
  MVCC machine: of a finished (committed / rolled-back) transaction only the status is kept, of an active one
  everything, with its `startTs` counted from position `k` of the commit log; the first `k` entries of the commit
  log are dropped.  Every operation of `Db.stepCore` commutes with the erasure (`stepCore_sim`), for every setting of
  the defect flags of `Model/Db.lean`: no operation reads more of a state than its erasure.
-/
import AxVerif.Model.Reopen
import AxVerif.Lemmas.Db
namespace AxVerif.Reopen
open AxVerif.Db

def dummySnap : Snapshot := ⟨0, Option.none, [], []⟩

def eraseTxn (k : Nat) (t : Txn) : Txn :=
  if t.status = .active then { t with startTs := t.startTs - k } else ⟨dummySnap, t.status, [], 0⟩

def E (k : Nat) (σ : Db.State) : Db.State := { σ with txns := σ.txns.map (eraseTxn k), clog := σ.clog.drop k }

theorem eraseTxn_status (k : Nat) (t : Txn) : (eraseTxn k t).status = t.status := by
  unfold eraseTxn; split <;> rfl

theorem eraseTxn_active {k : Nat} {t : Txn} (h : t.status = .active) :
    eraseTxn k t = { t with startTs := t.startTs - k } := if_pos h

theorem eraseTxn_dead {k : Nat} {t : Txn} (h : t.status ≠ .active) :
    eraseTxn k t = ⟨dummySnap, t.status, [], 0⟩ := if_neg h

theorem eraseTxn_zero_erase (k : Nat) (t : Txn) : eraseTxn 0 (eraseTxn k t) = eraseTxn k t := by
  by_cases h : t.status = .active
  · rw [eraseTxn_active h, eraseTxn_active (t := { t with startTs := t.startTs - k }) h]; rfl
  · rw [eraseTxn_dead h, eraseTxn_dead (t := ⟨dummySnap, t.status, [], 0⟩) h]

theorem E_zero_E (k : Nat) (σ : Db.State) : E 0 (E k σ) = E k σ := by
  simp [E, eraseTxn_zero_erase, Function.comp_def]

@[simp] theorem E_cat (k : Nat) (σ : Db.State) : (E k σ).cat = σ.cat := rfl
@[simp] theorem E_rows (k : Nat) (σ : Db.State) : (E k σ).rows = σ.rows := rfl
@[simp] theorem E_lc (k : Nat) (σ : Db.State) : (E k σ).lastCommitted = σ.lastCommitted := rfl
@[simp] theorem E_sessions (k : Nat) (σ : Db.State) : (E k σ).sessions = σ.sessions := rfl
@[simp] theorem E_clock (k : Nat) (σ : Db.State) : (E k σ).clock = σ.clock := rfl
@[simp] theorem E_index (k : Nat) (σ : Db.State) : (E k σ).index = σ.index := rfl
@[simp] theorem E_txns (k : Nat) (σ : Db.State) : (E k σ).txns = σ.txns.map (eraseTxn k) := rfl
@[simp] theorem E_clog (k : Nat) (σ : Db.State) : (E k σ).clog = σ.clog.drop k := rfl

theorem E_txns_length (k : Nat) (σ : Db.State) : (E k σ).txns.length = σ.txns.length := List.length_map _

theorem E_get (k : Nat) (σ : Db.State) (i : Nat) : (E k σ).txns[i]? = (σ.txns[i]?).map (eraseTxn k) :=
  List.getElem?_map

theorem idsWith_erase (st : Status) (k : Nat) : ∀ (txns : List Txn) (i : Nat),
    idsWith st (txns.map (eraseTxn k)) i = idsWith st txns i
  | [], _ => rfl
  | t :: ts, i => by
    simp only [List.map_cons, idsWith, eraseTxn_status, idsWith_erase st k ts (i + 1)]

theorem statusIs_erase (k : Nat) (txns : List Txn) (st : Status) (u : Nat) :
    statusIs (txns.map (eraseTxn k)) st u = statusIs txns st u := by
  simp only [statusIs, List.getElem?_map]
  cases txns[u]? with
  | none => rfl
  | some t => simp only [Option.map_some, eraseTxn_status]

theorem statusIs_iff (txns : List Txn) (st : Status) (u : Nat) :
    statusIs txns st u = true ↔ ∃ t, txns[u]? = some t ∧ t.status = st := by
  simp only [statusIs]
  cases txns[u]? with
  | none => simp
  | some t => simp

theorem freshSnap_E (D : Db.Defects) (k : Nat) (σ : Db.State) : (E k σ).freshSnap D = σ.freshSnap D := by
  simp [State.freshSnap, idsWith_erase]

theorem statusIs_of_E_eq {k k' : Nat} {σ τ : Db.State} (e : E k σ = E k' τ) (st : Status) (u : Nat) :
    statusIs σ.txns st u = statusIs τ.txns st u := by
  have := congrArg (fun s => Reopen.statusIs s.txns st u) e
  simpa only [E_txns, statusIs_erase] using this

theorem length_of_E_eq {k k' : Nat} {σ τ : Db.State} (e : E k σ = E k' τ) : σ.txns.length = τ.txns.length := by
  rw [← E_txns_length k σ, e, E_txns_length]

theorem freshSnap_of_E_eq (D : Db.Defects) {k k' : Nat} {σ τ : Db.State} (e : E k σ = E k' τ) :
    σ.freshSnap D = τ.freshSnap D := by
  rw [← freshSnap_E D k σ, e, freshSnap_E]

/-! ### well-formedness needed for the erasure to commute with the operations: `k` is the cut point of the commit log,
    no running transaction began before it -/

structure Wf (k : Nat) (σ : Db.State) : Prop where
  kle : k ≤ σ.clog.length
  act : ∀ (i : Nat) (t : Txn), σ.txns[i]? = some t → t.status = .active → k ≤ t.startTs
  sessAct : ∀ (s : String) (tid : Nat), lookup s σ.sessions = some tid → ∃ t, σ.txns[tid]? = some t ∧ t.status = .active
  sessInj : ∀ (s1 s2 : String) (tid : Nat), lookup s1 σ.sessions = some tid → lookup s2 σ.sessions = some tid → s1 = s2

theorem Wf.of_no_sessions {k : Nat} {σ : Db.State} (hk : k ≤ σ.clog.length)
    (hact : ∀ (i : Nat) (t : Txn), σ.txns[i]? = some t → t.status = .active → k ≤ t.startTs) (hs : σ.sessions = []) : Wf k σ :=
  ⟨hk, hact, fun s tid hl => (by rw [hs] at hl; cases hl), fun s1 s2 tid hl => (by rw [hs] at hl; cases hl)⟩

theorem Wf.erased {k : Nat} {σ : Db.State} (h : Wf k σ) : Wf 0 (E k σ) := by
  refine ⟨Nat.zero_le _, fun _ _ _ _ => Nat.zero_le _, ?_, h.sessInj⟩
  intro s tid hs
  obtain ⟨t, ht, hact⟩ := h.sessAct s tid hs
  exact ⟨eraseTxn k t, by rw [E_get, ht]; rfl, (eraseTxn_status k t).trans hact⟩

theorem Wf.of_eq {k : Nat} {σ σ' : Db.State} (h : Wf k σ) (ht : σ'.txns = σ.txns) (hc : σ'.clog = σ.clog)
    (hs : σ'.sessions = σ.sessions) : Wf k σ' :=
  ⟨hc ▸ h.kle, ht ▸ h.act, by rw [ht, hs]; exact h.sessAct, hs ▸ h.sessInj⟩

theorem map_erase_modify (k i : Nat) (f : Txn → Txn) (txns : List Txn)
    (hf : ∀ t, eraseTxn 0 (f (eraseTxn k t)) = eraseTxn k (f t)) :
    (txns.modify i f).map (eraseTxn k) = ((txns.map (eraseTxn k)).modify i f).map (eraseTxn 0) := by
  apply List.ext_getElem?
  intro j
  simp only [List.getElem?_map, List.getElem?_modify]
  cases txns[j]? with
  | none => rfl
  | some t =>
    by_cases e : i = j
    · simp [e, hf]
    · simp [e, eraseTxn_zero_erase]

theorem map_erase_setStatus (k tid : Nat) (st : Status) (hst : st ≠ .active) (txns : List Txn) :
    (setStatus txns tid st).map (eraseTxn k) = (setStatus (txns.map (eraseTxn k)) tid st).map (eraseTxn 0) :=
  map_erase_modify k tid _ txns fun t => by
    rw [eraseTxn_dead (t := { t with status := st }) hst, eraseTxn_dead (t := { eraseTxn k t with status := st }) hst]

theorem beginTxn_E (D : Db.Defects) (k : Nat) (σ : Db.State) :
    E k (σ.beginTxn D).1 = E 0 ((E k σ).beginTxn D).1 ∧ (σ.beginTxn D).2 = ((E k σ).beginTxn D).2 := by
  constructor
  · have hf := freshSnap_E D k σ
    have hnew : ∀ n, eraseTxn n ⟨σ.freshSnap D, .active, [], σ.clog.length⟩ =
        ⟨σ.freshSnap D, .active, [], σ.clog.length - n⟩ := by intro n; simp [eraseTxn]
    have hnew0 : eraseTxn 0 ⟨σ.freshSnap D, .active, [], σ.clog.length - k⟩ =
        ⟨σ.freshSnap D, .active, [], σ.clog.length - k⟩ := by simp [eraseTxn]
    simp only [State.beginTxn, E] at hf ⊢
    simp [eraseTxn_zero_erase, Function.comp_def, hf, hnew, hnew0]
  · simp [State.beginTxn]

theorem abortTxn_E (k tid : Nat) (σ : Db.State) : E k (σ.abortTxn tid) = E 0 ((E k σ).abortTxn tid) := by
  simp only [State.abortTxn, E, map_erase_setStatus k tid .aborted (by decide)]
  simp

/-- what a statement or the commit of `tid` needs in order to read no more than the erasure -/
def Live (k : Nat) (σ : Db.State) (tid : Nat) : Prop :=
  ∃ t, σ.txns[tid]? = some t ∧ t.status = .active ∧ k ≤ t.startTs ∧ k ≤ σ.clog.length

theorem conflictIn_E (k : Nat) (clog : List (Nat × List Rid)) (t : Txn) (hact : t.status = .active)
    (hk : k ≤ t.startTs) : conflictIn (clog.drop k) (eraseTxn k t) = conflictIn clog t := by
  rw [eraseTxn_active hact]
  simp only [conflictIn, List.drop_drop]
  rw [show k + (t.startTs - k) = t.startTs by omega]

theorem commitTxn_E (tid k : Nat) (σ : Db.State) (h : Live k σ tid) :
    E k (σ.commitTxn tid).1 = E 0 ((E k σ).commitTxn tid).1 ∧ (σ.commitTxn tid).2 = ((E k σ).commitTxn tid).2 := by
  obtain ⟨t, ht, hact, hk, hkl⟩ := h
  have hws : (eraseTxn k t).ws = t.ws := by rw [eraseTxn_active hact]
  simp only [State.commitTxn, ht, E_get, Option.map_some, E_clog, conflictIn_E k σ.clog t hact hk]
  by_cases hc : conflictIn σ.clog t = true
  · simp only [hc, if_true]
    refine ⟨?_, trivial⟩
    simp only [E, map_erase_setStatus k tid .aborted (by decide)]
    simp
  · simp only [hc, Bool.false_eq_true, if_false]
    refine ⟨?_, trivial⟩
    simp only [E, map_erase_setStatus k tid .committed (by decide), hws]
    simp [List.drop_append_of_le_length hkl]

theorem snapOf_E (tid k : Nat) (σ : Db.State) (h : Live k σ tid) : (E k σ).snapOf tid = σ.snapOf tid := by
  obtain ⟨t, ht, hact, _⟩ := h
  simp [State.snapOf, ht, eraseTxn_active hact]

theorem write_E (D : Db.Defects) (tid k : Nat) (σ : Db.State) (h : Live k σ tid) (es : List Effect) :
    E k (σ.write D tid es) = E 0 ((E k σ).write D tid es) := by
  have hs := snapOf_E tid k σ h
  simp only [State.write, hs, E_rows, E_cat, E_index, E_txns]
  by_cases hw : D.writeSetNeverRecorded = true
  · simp [hw, E, eraseTxn_zero_erase, Function.comp_def]
  · simp only [hw, Bool.false_eq_true, if_false]
    have := map_erase_modify k tid (fun t => { t with ws := t.ws ++ es.map Effect.rid }) σ.txns fun t => by
      unfold eraseTxn
      by_cases h : t.status = .active <;> simp [h]
    simp [E, this]

theorem stmt_E (D : Db.Defects) (tid j0 : Nat) (st : Stmt) (k : Nat) (σ : Db.State) (hl : Live k σ tid) :
    E k (σ.stmt D tid j0 st).1 = E 0 ((E k σ).stmt D tid j0 st).1 ∧
    (σ.stmt D tid j0 st).2 = ((E k σ).stmt D tid j0 st).2 := by
  have hs := snapOf_E tid k σ hl
  simp only [State.stmt, hs, E_rows, E_cat, E_index, E_clock]
  generalize planStmt _ σ.cat σ.clock j0 (view D (σ.snapOf tid) σ.rows) st = p
  by_cases h : (p.out.isErr && !D.stmtNotAtomicInSession) = true
  · simp only [h, if_true]
    exact ⟨(E_zero_E k σ).symm, trivial⟩
  · simp only [h, Bool.false_eq_true, if_false]
    exact ⟨write_E D tid k σ hl _, trivial⟩

theorem commitC_E (D : Db.Defects) (tid k : Nat) (σ : Db.State) (hl : Live k σ tid) :
    E k (σ.commitC D tid).1 = E 0 ((E k σ).commitC D tid).1 ∧ (σ.commitC D tid).2 = ((E k σ).commitC D tid).2 := by
  obtain ⟨h1, h2⟩ := commitTxn_E tid k σ hl
  obtain ⟨t, ht, hact, hk, hkl⟩ := hl
  have hrows : ((E k σ).commitTxn tid).1.rows = (σ.commitTxn tid).1.rows := by
    have := congrArg Db.State.rows h1
    simpa using this.symm
  have hfresh : ((E k σ).commitTxn tid).1.freshSnap D = (σ.commitTxn tid).1.freshSnap D :=
    (freshSnap_of_E_eq D h1).symm
  have hkt : (E k σ).keyTaken tid = σ.keyTaken tid := by
    refine keyTaken_congr rfl rfl ht (t' := eraseTxn k t) (by rw [E_get, ht]; rfl) ?_
    rw [eraseTxn_active hact]
    show (σ.clog.drop k).drop (t.startTs - k) = _
    rw [List.drop_drop]; congr 1; omega
  simp only [State.commitC, ← h2, hrows, hfresh, hkt, E_cat]
  by_cases hb : (σ.commitTxn tid).2 = true
  · simp only [hb, if_true]
    split
    · exact ⟨abortTxn_E k tid σ, rfl⟩
    · exact ⟨h1, rfl⟩
  · simp only [hb, Bool.false_eq_true, if_false]
    exact ⟨h1, trivial⟩

structure Same (σ σ' : Db.State) : Prop where
  clog : σ'.clog = σ.clog
  sessions : σ'.sessions = σ.sessions
  fwd : ∀ (i : Nat) (t : Txn), σ.txns[i]? = some t → ∃ t', σ'.txns[i]? = some t' ∧ t'.status = t.status ∧ t'.startTs = t.startTs
  bwd : ∀ (i : Nat) (t' : Txn), σ'.txns[i]? = some t' → ∃ t, σ.txns[i]? = some t ∧ t'.status = t.status ∧ t'.startTs = t.startTs

theorem Same.refl (σ : Db.State) : Same σ σ :=
  ⟨rfl, rfl, fun _ t h => ⟨t, h, rfl, rfl⟩, fun _ t h => ⟨t, h, rfl, rfl⟩⟩

theorem Same.trans {σ σ' σ'' : Db.State} (h1 : Same σ σ') (h2 : Same σ' σ'') : Same σ σ'' := by
  refine ⟨h2.clog.trans h1.clog, h2.sessions.trans h1.sessions, ?_, ?_⟩
  · intro i t ht
    obtain ⟨t', ht', e1, e2⟩ := h1.fwd i t ht
    obtain ⟨t'', ht'', f1, f2⟩ := h2.fwd i t' ht'
    exact ⟨t'', ht'', f1.trans e1, f2.trans e2⟩
  · intro i t'' ht''
    obtain ⟨t', ht', e1, e2⟩ := h2.bwd i t'' ht''
    obtain ⟨t, ht, f1, f2⟩ := h1.bwd i t' ht'
    exact ⟨t, ht, e1.trans f1, e2.trans f2⟩

theorem Same.length {σ σ' : Db.State} (h : Same σ σ') : σ'.txns.length = σ.txns.length := by
  apply Nat.le_antisymm <;> apply Nat.le_of_not_lt <;> intro hlt
  · obtain ⟨t, ht, _⟩ := h.bwd _ _ (List.getElem?_eq_getElem hlt)
    exact Nat.lt_irrefl _ (getElem?_lt ht)
  · obtain ⟨t', ht', _⟩ := h.fwd _ _ (List.getElem?_eq_getElem hlt)
    exact Nat.lt_irrefl _ (getElem?_lt ht')

theorem Wf.same {k : Nat} {σ σ' : Db.State} (h : Wf k σ) (hs : Same σ σ') : Wf k σ' := by
  refine ⟨by rw [hs.clog]; exact h.kle, ?_, ?_, ?_⟩
  · intro i t' ht' hact
    obtain ⟨t, ht, e1, e2⟩ := hs.bwd i t' ht'
    rw [e2]; exact h.act i t ht (e1 ▸ hact)
  · intro s tid hl
    rw [hs.sessions] at hl
    obtain ⟨t, ht, hact⟩ := h.sessAct s tid hl
    obtain ⟨t', ht', e1, _⟩ := hs.fwd tid t ht
    exact ⟨t', ht', e1.trans hact⟩
  · rw [hs.sessions]; exact h.sessInj

theorem Same.live {k tid : Nat} {σ σ' : Db.State} (hs : Same σ σ') (hl : Live k σ tid) : Live k σ' tid := by
  obtain ⟨t, ht, hact, hk, hkl⟩ := hl
  obtain ⟨t', ht', e1, e2⟩ := hs.fwd tid t ht
  exact ⟨t', ht', e1.trans hact, e2 ▸ hk, hs.clog ▸ hkl⟩

theorem write_same (D : Db.Defects) (σ : Db.State) (tid : Nat) (es : List Effect) : Same σ (σ.write D tid es) := by
  by_cases hw : D.writeSetNeverRecorded = true
  · simp only [State.write, hw, if_true]
    exact ⟨rfl, rfl, fun _ t h => ⟨t, h, rfl, rfl⟩, fun _ t h => ⟨t, h, rfl, rfl⟩⟩
  · have e : (σ.write D tid es).txns = σ.txns.modify tid (fun t => { t with ws := t.ws ++ es.map Effect.rid }) :=
      if_neg hw
    refine ⟨rfl, rfl, fun i t ht => ?_, fun i t' ht' => ?_⟩
    · obtain ⟨t', h1, _, h2, h3, _⟩ := modify_ws_get (tid := tid) (w := es.map Effect.rid) ht
      exact ⟨t', e ▸ h1, h3, h2⟩
    · rw [e] at ht'
      obtain ⟨t, ht, rfl⟩ := getElem?_modify_some.1 ht'
      exact ⟨t, ht, by split <;> exact ⟨rfl, rfl⟩⟩

theorem stmt_same (D : Db.Defects) (σ : Db.State) (tid j0 : Nat) (st : Stmt) : Same σ (σ.stmt D tid j0 st).1 := by
  fun_cases State.stmt D σ tid j0 st
  case case1 pb p hfailed => exact Same.refl σ
  case case2 pb p hdone => exact write_same D σ tid _

theorem batch_same (D : Db.Defects) (tid : Nat) : ∀ (sts : List Stmt) (σ : Db.State) (j0 : Nat),
    Same σ (State.batch D σ tid j0 sts).1
  | [], σ, _ => Same.refl σ
  | st :: sts, σ, j0 => by
    have h1 := stmt_same D σ tid j0 st
    have h2 := batch_same D tid sts (σ.stmt D tid j0 st).1 (j0 + countIns (σ.stmt D tid j0 st).2.effs)
    simp only [State.batch]
    split
    · exact h1
    · exact h1.trans h2

/-- "keeps aborted" -/
def KA (σ σ' : Db.State) : Prop :=
  σ.txns.length ≤ σ'.txns.length ∧ ∀ u, statusIs σ.txns .aborted u = true → statusIs σ'.txns .aborted u = true

theorem KA.refl (σ : Db.State) : KA σ σ := ⟨Nat.le_refl _, fun _ h => h⟩

theorem KA.trans {σ σ' σ'' : Db.State} (h1 : KA σ σ') (h2 : KA σ' σ'') : KA σ σ'' :=
  ⟨Nat.le_trans h1.1 h2.1, fun u h => h2.2 u (h1.2 u h)⟩

theorem ka_of_txns {σ σ' : Db.State} (h : σ'.txns = σ.txns) : KA σ σ' := by
  unfold KA; rw [h]; exact ⟨Nat.le_refl _, fun _ h => h⟩

theorem Same.ka {σ σ' : Db.State} (h : Same σ σ') : KA σ σ' := by
  refine ⟨Nat.le_of_eq h.length.symm, fun u hu => ?_⟩
  obtain ⟨t, ht, hs⟩ := (statusIs_iff _ _ _).1 hu
  obtain ⟨t', ht', e, _⟩ := h.fwd u t ht
  exact (statusIs_iff _ _ _).2 ⟨t', ht', e.trans hs⟩

theorem begin_get_old (D : Db.Defects) {σ : Db.State} {i : Nat} {t : Txn} (ht : σ.txns[i]? = some t) :
    (σ.beginTxn D).1.txns[i]? = some t :=
  getElem?_snoc.2 (.inl ht)

theorem begin_new_active (D : Db.Defects) (σ : Db.State) :
    (σ.beginTxn D).1.txns[(σ.beginTxn D).2]? = some ⟨σ.freshSnap D, .active, [], σ.clog.length⟩ :=
  getElem?_snoc.2 (.inr ⟨rfl, rfl⟩)

theorem Wf.live {k : Nat} {σ : Db.State} (w : Wf k σ) {s : String} {tid : Nat} (hl : lookup s σ.sessions = some tid) :
    Live k σ tid := by
  obtain ⟨t, ht, hact⟩ := w.sessAct s tid hl
  exact ⟨t, ht, hact, w.act tid t ht hact, w.kle⟩

theorem Wf.live_new {k : Nat} {σ : Db.State} (w : Wf k σ) (D : Db.Defects) : Live k (σ.beginTxn D).1 (σ.beginTxn D).2 :=
  ⟨_, begin_new_active D σ, rfl, w.kle, w.kle⟩

theorem ka_begin (D : Db.Defects) (σ : Db.State) : KA σ (σ.beginTxn D).1 := by
  refine ⟨by simp [State.beginTxn], fun u hu => ?_⟩
  obtain ⟨t, ht, hs⟩ := (statusIs_iff _ _ _).1 hu
  exact (statusIs_iff _ _ _).2 ⟨t, begin_get_old D ht, hs⟩

structure Finishes (tid : Nat) (σ σ' : Db.State) : Prop where
  ne : ∀ i, i ≠ tid → σ'.txns[i]? = σ.txns[i]?
  self : ∀ t', σ'.txns[tid]? = some t' → t'.status ≠ .active
  length : σ'.txns.length = σ.txns.length
  clog : σ.clog.length ≤ σ'.clog.length
  sessions : σ'.sessions = σ.sessions

theorem Finishes.of_setStatus {σ σ' : Db.State} {tid : Nat} {st : Status} (hst : st ≠ .active)
    (ht : σ'.txns = setStatus σ.txns tid st) (hc : σ.clog.length ≤ σ'.clog.length) (hs : σ'.sessions = σ.sessions) :
    Finishes tid σ σ' := by
  refine ⟨fun i e => ?_, fun t' h => ?_, by rw [ht, length_setStatus], hc, hs⟩
  · rw [ht, getElem?_setStatus_ne st (Ne.symm e)]
  · rw [ht] at h
    obtain ⟨_, _, _, _, _, _, e⟩ := setStatus_same_fields h
    rw [e rfl]; exact hst

theorem finishes_abort (σ : Db.State) (tid : Nat) : Finishes tid σ (σ.abortTxn tid) :=
  .of_setStatus (st := .aborted) (by decide) rfl (Nat.le_refl _) rfl

theorem finishes_commitTxn (σ : Db.State) (tid : Nat) : Finishes tid σ (σ.commitTxn tid).1 := by
  fun_cases State.commitTxn σ tid
  case case1 hnone => exact ⟨fun _ _ => rfl, fun t' h' => (by rw [hnone] at h'; cases h'), rfl, Nat.le_refl _, rfl⟩
  case case2 => exact .of_setStatus (st := .aborted) (by decide) rfl (Nat.le_refl _) rfl
  case case3 => exact .of_setStatus (st := .committed) (by decide) rfl (by simp) rfl

theorem finishes_commitC (D : Db.Defects) (σ : Db.State) (tid : Nat) : Finishes tid σ (σ.commitC D tid).1 := by
  rcases commitC_cases D σ tid with e | e <;> rw [e]
  · exact finishes_abort σ tid
  · exact finishes_commitTxn σ tid

theorem Finishes.ka {tid : Nat} {σ σ' : Db.State} (h : Finishes tid σ σ')
    (hself : statusIs σ.txns .aborted tid = true → statusIs σ'.txns .aborted tid = true) : KA σ σ' := by
  refine ⟨Nat.le_of_eq h.length.symm, fun u hu => ?_⟩
  by_cases e : u = tid
  · subst e; exact hself hu
  · unfold statusIs at hu ⊢; rwa [h.ne u e]

theorem Finishes.ka_of_live {k tid : Nat} {σ σ' : Db.State} (h : Finishes tid σ σ') (hl : Live k σ tid) : KA σ σ' := by
  refine h.ka fun hu => ?_
  obtain ⟨t, ht, hact, _⟩ := hl
  obtain ⟨t', ht', hs⟩ := (statusIs_iff _ _ _).1 hu
  rw [ht] at ht'; cases ht'
  rw [hact] at hs; cases hs

theorem ka_abort (σ : Db.State) (tid : Nat) : KA σ (σ.abortTxn tid) := by
  refine (finishes_abort σ tid).ka fun hu => ?_
  obtain ⟨t, ht, _⟩ := (statusIs_iff _ _ _).1 hu
  exact (statusIs_iff _ _ _).2 ⟨{ t with status := .aborted }, getElem?_setStatus.2 ⟨t, ht, (if_pos rfl).symm⟩, rfl⟩

theorem Wf.begin {k : Nat} {σ : Db.State} (D : Db.Defects) (h : Wf k σ) : Wf k (σ.beginTxn D).1 := by
  refine ⟨h.kle, ?_, ?_, h.sessInj⟩
  · intro i t ht hact
    rcases getElem?_snoc.1 ht with h' | ⟨_, rfl⟩
    · exact h.act i t h' hact
    · exact h.kle
  · intro s tid hl
    obtain ⟨t, ht, hact⟩ := h.sessAct s tid hl
    exact ⟨t, begin_get_old D ht, hact⟩

theorem Wf.finish {k : Nat} {σ σ' : Db.State} (h : Wf k σ) (tid : Nat)
    (hclog : k ≤ σ'.clog.length)
    (htx : ∀ i, i ≠ tid → σ'.txns[i]? = σ.txns[i]?)
    (htid : ∀ t', σ'.txns[tid]? = some t' → t'.status ≠ .active)
    (hsess : ∀ s tid', lookup s σ'.sessions = some tid' → lookup s σ.sessions = some tid' ∧ tid' ≠ tid) :
    Wf k σ' := by
  refine ⟨hclog, ?_, ?_, ?_⟩
  · intro i t ht hact
    by_cases e : i = tid
    · subst e; exact (htid t ht hact).elim
    · rw [htx i e] at ht; exact h.act i t ht hact
  · intro s tid' hl
    obtain ⟨h1, h2⟩ := hsess s tid' hl
    obtain ⟨t, ht, hact⟩ := h.sessAct s tid' h1
    exact ⟨t, by rw [htx tid' h2]; exact ht, hact⟩
  · intro s1 s2 tid' h1 h2
    exact h.sessInj s1 s2 tid' (hsess s1 tid' h1).1 (hsess s2 tid' h2).1

theorem Wf.endSess {k : Nat} {σ σ' : Db.State} (h : Wf k σ) {s : String} {tid : Nat}
    (hl : lookup s σ.sessions = some tid) (hf : Finishes tid σ σ') :
    Wf k (σ'.endSession s) ∧ KA σ (σ'.endSession s) := by
  refine ⟨h.finish tid (Nat.le_trans h.kle hf.clog) hf.ne hf.self ?_, hf.ka_of_live (h.live hl)⟩
  intro s' tid' hl'
  simp only [State.endSession, hf.sessions, lookup_erase_if] at hl'
  by_cases e : s' = s
  · simp [e] at hl'
  · simp only [e, if_false] at hl'
    exact ⟨hl', fun e2 => e (h.sessInj s' s tid' hl' (e2 ▸ hl))⟩

/-- an autocommit transaction: begun, worked in, finished -/
theorem Wf.autoFinish {k : Nat} {σ σ2 σ3 : Db.State} (D : Db.Defects) (h : Wf k σ) (hs : Same (σ.beginTxn D).1 σ2)
    (hf : Finishes σ.txns.length σ2 σ3) : Wf k σ3 ∧ KA σ σ3 := by
  have h2 : Wf k σ2 := (Wf.begin D h).same hs
  refine ⟨h2.finish σ.txns.length (Nat.le_trans h2.kle hf.clog) hf.ne hf.self ?_,
    (ka_begin D σ).trans (hs.ka.trans (hf.ka_of_live (hs.live (h.live_new D))))⟩
  intro s tid' hl
  rw [hf.sessions] at hl
  refine ⟨hl, ?_⟩
  rw [hs.sessions] at hl
  obtain ⟨t, ht, _⟩ := h.sessAct s tid' hl
  exact Nat.ne_of_lt (getElem?_lt ht)

theorem Wf.beginSess {k : Nat} {σ : Db.State} (D : Db.Defects) (s : String) (h : Wf k σ) :
    Wf k { (σ.beginTxn D).1 with sessions := (s, (σ.beginTxn D).2) :: (σ.beginTxn D).1.sessions } ∧
    KA σ { (σ.beginTxn D).1 with sessions := (s, (σ.beginTxn D).2) :: (σ.beginTxn D).1.sessions } := by
  have w2 := Wf.begin D h
  have hlt : ∀ s' tid', lookup s' σ.sessions = some tid' → tid' ≠ σ.txns.length := by
    intro s' tid' hl
    obtain ⟨t, ht, _⟩ := h.sessAct s' tid' hl
    exact Nat.ne_of_lt (getElem?_lt ht)
  refine ⟨⟨w2.kle, w2.act, ?_, ?_⟩, ka_begin D σ⟩
  · intro s' tid hl
    simp only [lookup_cons_if] at hl
    split at hl
    · cases hl; exact ⟨_, begin_new_active D σ, rfl⟩
    · exact w2.sessAct s' tid hl
  · intro s1 s2 tid hl1 hl2
    simp only [lookup_cons_if] at hl1 hl2
    split at hl1 <;> split at hl2
    · next c1 c2 => exact c1.trans c2.symm
    · cases hl1; exact (hlt s2 _ hl2 rfl).elim
    · cases hl2; exact (hlt s1 _ hl1 rfl).elim
    · exact h.sessInj s1 s2 tid hl1 hl2

/-- `ρ` is an erased twin of `σ` -/
def Tw (k : Nat) (σ ρ : Db.State) : Prop := E k σ = E 0 ρ

theorem Tw.self (k : Nat) (σ : Db.State) : Tw k σ (E k σ) := (E_zero_E k σ).symm

theorem Tw.statusIs {k : Nat} {σ ρ : Db.State} (h : Tw k σ ρ) (st : Status) (u : Nat) :
    statusIs σ.txns st u = statusIs ρ.txns st u :=
  statusIs_of_E_eq h st u

theorem Tw.active {k : Nat} {σ ρ : Db.State} (h : Tw k σ ρ) {i : Nat} {t : Txn} (ht : σ.txns[i]? = some t)
    (hact : t.status = .active) : ∃ t', ρ.txns[i]? = some t' ∧ t'.status = .active :=
  (statusIs_iff _ _ _).1 (h.statusIs _ _ ▸ (statusIs_iff _ _ _).2 ⟨t, ht, hact⟩)

theorem Tw.sessions {k : Nat} {σ ρ : Db.State} (h : Tw k σ ρ) : ρ.sessions = σ.sessions :=
  (congrArg Db.State.sessions h).symm

theorem Tw.length {k : Nat} {σ ρ : Db.State} (h : Tw k σ ρ) : ρ.txns.length = σ.txns.length :=
  (length_of_E_eq h).symm

/-- how a one-sided commutation lemma turns into a statement about twins -/
theorem Tw.lift {k : Nat} {σ ρ : Db.State} (h : Tw k σ ρ) (f : Db.State → Db.State × β)
    (h1 : E k (f σ).1 = E 0 (f (E k σ)).1 ∧ (f σ).2 = (f (E k σ)).2)
    (h2 : E 0 (f ρ).1 = E 0 (f (E 0 ρ)).1 ∧ (f ρ).2 = (f (E 0 ρ)).2) :
    Tw k (f σ).1 (f ρ).1 ∧ (f σ).2 = (f ρ).2 := by
  unfold Tw at *
  rw [h1.1, h2.1, h1.2, h2.2, h]
  exact ⟨rfl, rfl⟩

/-- the same for what a running transaction does: the twin's transaction is running too -/
theorem Tw.liftAt {k tid : Nat} {σ ρ : Db.State} {f : Db.State → Db.State × β}
    (hf : ∀ k σ, Live k σ tid → E k (f σ).1 = E 0 (f (E k σ)).1 ∧ (f σ).2 = (f (E k σ)).2)
    (h : Tw k σ ρ) (hl : Live k σ tid) : Tw k (f σ).1 (f ρ).1 ∧ (f σ).2 = (f ρ).2 := by
  have ⟨t, ht, hact, _⟩ := hl
  obtain ⟨t', ht', hact'⟩ := h.active ht hact
  exact h.lift f (hf k σ hl) (hf 0 ρ ⟨t', ht', hact', Nat.zero_le _, Nat.zero_le _⟩)

theorem tw_begin (D : Db.Defects) {k : Nat} {σ ρ : Db.State} (h : Tw k σ ρ) :
    Tw k (σ.beginTxn D).1 (ρ.beginTxn D).1 ∧ (σ.beginTxn D).2 = (ρ.beginTxn D).2 :=
  h.lift (·.beginTxn D) (beginTxn_E D k σ) (beginTxn_E D 0 ρ)

theorem tw_abort {k : Nat} {σ ρ : Db.State} (h : Tw k σ ρ) (tid : Nat) : Tw k (σ.abortTxn tid) (ρ.abortTxn tid) :=
  (h.lift (fun s => (s.abortTxn tid, ())) ⟨abortTxn_E k tid σ, rfl⟩ ⟨abortTxn_E 0 tid ρ, rfl⟩).1

theorem tw_sessions {k : Nat} {σ ρ : Db.State} (h : Tw k σ ρ) (f : List (String × Nat) → List (String × Nat)) :
    Tw k { σ with sessions := f σ.sessions } { ρ with sessions := f ρ.sessions } := by
  have hs := h.sessions
  unfold Tw at h ⊢
  show ({ E k σ with sessions := f σ.sessions } : Db.State) = { E 0 ρ with sessions := f ρ.sessions }
  rw [h, hs]

theorem tw_batch (D : Db.Defects) {k : Nat} (tid : Nat) : ∀ (sts : List Stmt) {σ ρ : Db.State} (j0 : Nat),
    Tw k σ ρ → Live k σ tid →
    Tw k (State.batch D σ tid j0 sts).1 (State.batch D ρ tid j0 sts).1 ∧
    (State.batch D σ tid j0 sts).2 = (State.batch D ρ tid j0 sts).2
  | [], _, _, _, h, _ => ⟨h, rfl⟩
  | st :: sts, σ, ρ, j0, h, hl => by
    obtain ⟨s1, s2⟩ := Tw.liftAt (stmt_E D tid j0 st) h hl
    obtain ⟨b1, b2⟩ := tw_batch D tid sts (j0 + countIns (σ.stmt D tid j0 st).2.effs) s1
      ((stmt_same D σ tid j0 st).live hl)
    simp only [State.batch, ← s2]
    split
    · exact ⟨s1, rfl⟩
    · exact ⟨b1, congrArg (fun z => ((σ.stmt D tid j0 st).2.out :: z.1, z.2)) b2⟩

/-- **Every operation of the MVCC machine commutes with the erasure**: twins stay twins and answer alike.  Along
    the way the state stays well-formed, and what is rolled back stays rolled back. -/
theorem stepCore_sim (D : Db.Defects) {k : Nat} {σ ρ : Db.State} (h : Tw k σ ρ) (w : Wf k σ) (op : Op) :
    (Tw k (stepCore D σ op).1 (stepCore D ρ op).1 ∧ (stepCore D σ op).2 = (stepCore D ρ op).2) ∧
    Wf k (stepCore D σ op).1 ∧ KA σ (stepCore D σ op).1 := by
  have hsess := h.sessions
  obtain ⟨b1, b2⟩ := tw_begin D h
  cases op with
  | begin s =>
    simp only [stepCore, hsess]
    cases hl : lookup s σ.sessions with
    | none =>
      simp only
      rw [← b2]
      exact ⟨⟨tw_sessions b1 (fun l => (s, (σ.beginTxn D).2) :: l), trivial⟩, Wf.beginSess D s w⟩
    | some old =>
      -- the older transaction of the session is rolled back first
      simp only
      have h1 : Tw k ((σ.abortTxn old).endSession s) ((ρ.abortTxn old).endSession s) :=
        tw_sessions (tw_abort h old) (erase s)
      obtain ⟨h2, h3⟩ := tw_begin D h1
      obtain ⟨w1, k1⟩ := w.endSess hl (finishes_abort σ old)
      obtain ⟨w2, k2⟩ := Wf.beginSess D s w1
      rw [← h3]
      exact ⟨⟨tw_sessions h2 (fun l => (s, (((σ.abortTxn old).endSession s).beginTxn D).2) :: l), trivial⟩,
        w2, k1.trans k2⟩
  | commit s =>
    simp only [stepCore, hsess]
    cases hl : lookup s σ.sessions with
    | none => exact ⟨⟨h, rfl⟩, w, KA.refl σ⟩
    | some tid =>
      obtain ⟨h2, h3⟩ := Tw.liftAt (commitC_E D tid) h (w.live hl)
      simp only [h3]
      exact ⟨⟨tw_sessions h2 (erase s), trivial⟩, w.endSess hl (finishes_commitC D σ tid)⟩
  | rollback s | drop s =>
    simp only [stepCore, hsess]
    cases hl : lookup s σ.sessions with
    | none => exact ⟨⟨h, rfl⟩, w, KA.refl σ⟩
    | some tid => exact ⟨⟨tw_sessions (tw_abort h tid) (erase s), rfl⟩, w.endSess hl (finishes_abort σ tid)⟩
  | exec s st =>
    simp only [stepCore, hsess]
    cases hl : lookup s σ.sessions with
    | none => exact ⟨⟨h, rfl⟩, w, KA.refl σ⟩
    | some tid =>
      obtain ⟨h2, h3⟩ := Tw.liftAt (stmt_E D tid 0 st) h (w.live hl)
      simp only [h3]
      exact ⟨⟨h2, trivial⟩, w.same (stmt_same D σ tid 0 st), (stmt_same D σ tid 0 st).ka⟩
  | auto st =>
    have hs := stmt_same D (σ.beginTxn D).1 (σ.beginTxn D).2 0 st
    obtain ⟨s1, s2⟩ := Tw.liftAt (stmt_E D _ 0 st) b1 (w.live_new D)
    obtain ⟨c1, c2⟩ := Tw.liftAt (commitC_E D _) s1 (hs.live (w.live_new D))
    simp only [stepCore, ← b2, ← s2]
    split
    · exact ⟨⟨tw_abort s1 _, rfl⟩, Wf.autoFinish D w hs (finishes_abort _ _)⟩
    · exact ⟨⟨c1, by rw [c2]⟩, Wf.autoFinish D w hs (finishes_commitC D _ _)⟩
  | batch sts =>
    obtain ⟨s1, s2⟩ := tw_batch D _ sts 0 b1 (w.live_new D)
    have hs := batch_same D (σ.beginTxn D).2 sts (σ.beginTxn D).1 0
    simp only [stepCore, ← b2]
    generalize State.batch D (σ.beginTxn D).1 (σ.beginTxn D).2 0 sts = r at s1 s2 hs
    generalize State.batch D (ρ.beginTxn D).1 (σ.beginTxn D).2 0 sts = r' at s1 s2
    obtain ⟨σ2, outs, res⟩ := r
    obtain ⟨ρ2, outs', res'⟩ := r'
    cases s2
    obtain ⟨c1, c2⟩ := Tw.liftAt (ρ := ρ2) (commitC_E D _) s1 (Same.live (σ' := σ2) hs (w.live_new D))
    cases res with
    | some e => exact ⟨⟨tw_abort s1 _, rfl⟩, Wf.autoFinish D w hs (finishes_abort _ _)⟩
    | none => exact ⟨⟨c1, by simp only [c2]⟩, Wf.autoFinish D w hs (finishes_commitC D _ _)⟩
  | tick =>
    simp only [stepCore, ← b2]
    exact ⟨⟨(Tw.liftAt (commitTxn_E _) b1 (w.live_new D)).1, trivial⟩, Wf.autoFinish D w (Same.refl _) (finishes_commitTxn _ _)⟩
  | nop => exact ⟨⟨h, rfl⟩, w, KA.refl σ⟩

structure Commutes (f : Db.State → Db.State) : Prop where
  comm : ∀ (k : Nat) (σ : Db.State), Wf k σ → E k (f σ) = E 0 (f (E k σ))
  wf : ∀ (k : Nat) (σ : Db.State), Wf k σ → Wf k (f σ)
  ka : ∀ (k : Nat) (σ : Db.State), Wf k σ → KA σ (f σ)

theorem Commutes.comp {f g : Db.State → Db.State} (hf : Commutes f) (hg : Commutes g) : Commutes (fun σ => g (f σ)) := by
  refine ⟨fun k σ h => ?_, fun k σ h => hg.wf k _ (hf.wf k σ h), fun k σ h => (hf.ka k σ h).trans (hg.ka k _ (hf.wf k σ h))⟩
  show E k (g (f σ)) = E 0 (g (f (E k σ)))
  rw [hg.comm k (f σ) (hf.wf k σ h), hf.comm k σ h, hg.comm 0 (f (E k σ)) (hf.wf 0 _ h.erased)]

def EqE (σ τ : Db.State) : Prop := ∃ k k', E k σ = E k' τ ∧ Wf k σ ∧ Wf k' τ

theorem EqE.map {σ τ : Db.State} (h : EqE σ τ) {f : Db.State → Db.State} (hf : Commutes f) : EqE (f σ) (f τ) := by
  obtain ⟨k, k', e, w1, w2⟩ := h
  exact ⟨k, k', by rw [hf.comm k σ w1, hf.comm k' τ w2, e], hf.wf k σ w1, hf.wf k' τ w2⟩

theorem EqE.rows {σ τ : Db.State} (h : EqE σ τ) : σ.rows = τ.rows := by
  obtain ⟨k, k', e, _, _⟩ := h
  have := congrArg Db.State.rows e
  exact this

theorem EqE.cat {σ τ : Db.State} (h : EqE σ τ) : σ.cat = τ.cat := by
  obtain ⟨k, k', e, _, _⟩ := h
  have := congrArg Db.State.cat e
  exact this

theorem EqE.length {σ τ : Db.State} (h : EqE σ τ) : σ.txns.length = τ.txns.length := by
  obtain ⟨k, k', e, _, _⟩ := h
  exact length_of_E_eq e

theorem EqE.fresh (D : Db.Defects) {σ τ : Db.State} (h : EqE σ τ) : σ.freshSnap D = τ.freshSnap D := by
  obtain ⟨k, k', e, _, _⟩ := h
  exact freshSnap_of_E_eq D e

theorem EqE.statusIs {σ τ : Db.State} (h : EqE σ τ) (st : Status) (u : Nat) : statusIs σ.txns st u = statusIs τ.txns st u := by
  obtain ⟨k, k', e, _, _⟩ := h
  exact statusIs_of_E_eq e st u

theorem EqE.stepCore (D : Db.Defects) {σ τ : Db.State} (h : EqE σ τ) (op : Op) :
    EqE (stepCore D σ op).1 (stepCore D τ op).1 ∧ (stepCore D σ op).2 = (stepCore D τ op).2 := by
  obtain ⟨k, k', e, w1, w2⟩ := h
  obtain ⟨⟨a1, a2⟩, a3, _⟩ := stepCore_sim D (Tw.self k σ) w1 op
  have tw2 : Tw k' τ (E k σ) := by unfold Tw; rw [E_zero_E, e]
  obtain ⟨⟨b1, b2⟩, b3, _⟩ := stepCore_sim D tw2 w2 op
  exact ⟨⟨k, k', a1.trans b1.symm, a3, b3⟩, a2.trans b2.symm⟩

theorem commutes_id : Commutes id := ⟨fun k σ _ => (E_zero_E k σ).symm, fun _ _ h => h, fun _ σ _ => KA.refl σ⟩

theorem commutes_stepCore (D : Db.Defects) (op : Op) : Commutes (fun σ => (stepCore D σ op).1) :=
  ⟨fun k σ h => (stepCore_sim D (Tw.self k σ) h op).1.1, fun k σ h => (stepCore_sim D (Tw.self k σ) h op).2.1,
    fun k σ h => (stepCore_sim D (Tw.self k σ) h op).2.2⟩

theorem commutes_tick (D : Db.Defects) : Commutes (tickDb D) := commutes_stepCore D .tick

theorem commutes_fail (D : Db.Defects) : Commutes (failDb D) := by
  refine ⟨fun k σ h => ?_, fun k σ h => (Wf.autoFinish D h (Same.refl _) (finishes_abort _ _)).1,
    fun k σ h => (Wf.autoFinish D h (Same.refl _) (finishes_abort _ _)).2⟩
  obtain ⟨b1, b2⟩ := tw_begin D (Tw.self k σ)
  simp only [failDb, ← b2]
  exact tw_abort b1 (σ.beginTxn D).2

theorem commutes_burn (D : Db.Defects) : ∀ n, Commutes (burnDb D n)
  | 0 => commutes_id
  | n + 1 => (commutes_tick D).comp (commutes_burn D n)

theorem Commutes.of_frame {f : Db.State → Db.State} (hc : ∀ (k : Nat) (σ : Db.State), E k (f σ) = E 0 (f (E k σ)))
    (ht : ∀ σ, (f σ).txns = σ.txns) (hl : ∀ σ, (f σ).clog = σ.clog) (hs : ∀ σ, (f σ).sessions = σ.sessions) : Commutes f :=
  ⟨fun k σ _ => hc k σ, fun _ σ h => h.of_eq (ht σ) (hl σ) (hs σ), fun _ σ _ => ka_of_txns (ht σ)⟩

theorem commutes_fields (fc : Catalog → Catalog) (fr : List Row → List Row) (fi : Index → Index) (fk : Nat → Nat) :
    Commutes (fun σ => { σ with cat := fc σ.cat, rows := fr σ.rows, index := fi σ.index, clock := fk σ.clock }) :=
  .of_frame (fun k σ => by simp [E, eraseTxn_zero_erase, Function.comp_def]) (fun _ => rfl) (fun _ => rfl) (fun _ => rfl)

theorem vacuumRows_erase (k : Nat) (txns : List Txn) (rows : List Row) :
    vacuumRows (txns.map (eraseTxn k)) rows = vacuumRows txns rows := by
  have h : ∀ st, statusIs (txns.map (eraseTxn k)) st = statusIs txns st :=
    fun st => funext (statusIs_erase k txns st)
  unfold vacuumRows vacuumRow
  simp only [h]

theorem commutes_vacuum (D : Db.Defects) :
    Commutes (fun σ => tickDb D { σ with rows := vacuumRows σ.txns σ.rows }) :=
  Commutes.comp (.of_frame (fun k σ => by simp [E, vacuumRows_erase, eraseTxn_zero_erase, Function.comp_def])
    (fun _ => rfl) (fun _ => rfl) (fun _ => rfl)) (commutes_tick D)

theorem commutes_create (D : Db.Defects) (ts : TableSchema) :
    Commutes (fun σ => tickDb D { σ with cat := σ.cat ++ [ts] }) :=
  (commutes_fields (· ++ [ts]) id id id).comp (commutes_tick D)

theorem commutes_dropTable (D : Db.Defects) (t : String) :
    Commutes (fun σ => tickDb D { σ with cat := σ.cat.filter (fun ts => ts.name != t),
                                          rows := σ.rows.filter (fun r => r.table != t),
                                          index := σ.index.filter (fun e => e.table != t) }) :=
  (commutes_fields (·.filter (fun ts => ts.name != t)) (·.filter (fun r => r.table != t))
    (·.filter (fun e => e.table != t)) id).comp (commutes_tick D)

def abortList (σ : Db.State) (l : List (String × Nat)) : Db.State := l.foldl (fun σ' p => σ'.abortTxn p.2) σ

theorem dropAll_eq (σ : Db.State) : dropAll σ = { abortList σ σ.sessions with sessions := [] } := rfl

theorem abortList_E (k : Nat) : ∀ (l : List (String × Nat)) (σ : Db.State),
    E k (abortList σ l) = E 0 (abortList (E k σ) l)
  | [], σ => (E_zero_E k σ).symm
  | p :: l, σ => by
    show E k (abortList (σ.abortTxn p.2) l) = E 0 (abortList ((E k σ).abortTxn p.2) l)
    rw [abortList_E k l, abortTxn_E k p.2 σ, ← abortList_E 0 l]

theorem abortList_ind {P : Db.State → Prop} (hstep : ∀ σ tid, P σ → P (σ.abortTxn tid)) :
    ∀ (l : List (String × Nat)) (σ : Db.State), P σ → P (abortList σ l)
  | [], _, h => h
  | p :: l, σ, h => abortList_ind hstep l _ (hstep σ p.2 h)

theorem abortList_sessions : ∀ (l : List (String × Nat)) (σ : Db.State), (abortList σ l).sessions = σ.sessions :=
  fun l σ => abortList_ind (P := fun σ' => σ'.sessions = σ.sessions) (fun _ _ h => h) l σ rfl

theorem abortList_active : ∀ (l : List (String × Nat)) (σ : Db.State) (i : Nat) (t : Txn),
    (abortList σ l).txns[i]? = some t → t.status = .active → σ.txns[i]? = some t
  | [], _, _, _, h, _ => h
  | p :: l, σ, i, t, h, hact => by
    have h1 := abortList_active l (σ.abortTxn p.2) i t h hact
    by_cases e : i = p.2
    · subst e
      exact ((finishes_abort σ _).self t h1 hact).elim
    · rwa [(finishes_abort σ p.2).ne i e] at h1

theorem commutes_dropAll : Commutes dropAll := by
  refine ⟨fun k σ _ => ?_, fun k σ h => .of_no_sessions ?_ (fun i t ht hact => ?_) rfl,
    fun _ σ _ => abortList_ind (P := KA σ) (fun σ' tid h => h.trans (ka_abort σ' tid)) σ.sessions σ (KA.refl σ)⟩
  · show ({ E k (abortList σ σ.sessions) with sessions := [] } : Db.State) =
      { E 0 (abortList (E k σ) σ.sessions) with sessions := [] }
    rw [abortList_E]
  · exact abortList_ind (P := fun σ' => k ≤ σ'.clog.length) (fun _ _ h => h) σ.sessions σ h.kle
  · exact h.act i t (abortList_active σ.sessions σ i t ht hact) hact

theorem fresh_not_sees_aborted (D : Db.Defects) (σ : Db.State) (u : Nat) (h : statusIs σ.txns .aborted u = true) :
    (σ.freshSnap D).sees u = false := by
  obtain ⟨t, ht, _⟩ := (statusIs_iff _ _ _).1 h
  have hmem : u ∈ idsWith Status.aborted σ.txns 0 := (mem_idsWith0 _ _ _).2 ((statusIs_iff _ _ _).1 h)
  have hne : (u == σ.txns.length) = false := by simpa using Nat.ne_of_lt (getElem?_lt ht)
  simp [State.freshSnap, Snapshot.sees, Snapshot.cb, hmem, hne]

def deact (t : Txn) : Txn := if t.status = .active then { t with status := .aborted } else t

theorem quiesce_eq (σ : Db.State) : quiesce σ = { σ with txns := σ.txns.map deact, sessions := [] } := rfl

theorem deact_status (t : Txn) : (deact t).status = if t.status = .active then .aborted else t.status := by
  unfold deact; split <;> rfl

theorem deact_status_ne (t : Txn) : (deact t).status ≠ .active := by
  rw [deact_status]; split
  · decide
  · assumption

theorem open_close_get (cfg : Config) (R : Defects) (w : WState) (i : Nat) :
    (openDb cfg (closeDb R w)).db.txns[i]? = (w.db.txns[i]?).map (fun _ => reloadTxn (closeDb R w).aborted i) := by
  simp only [openDb, closeDb, List.getElem?_map]
  by_cases h : i < w.db.txns.length
  · rw [List.getElem?_eq_getElem h, List.getElem?_eq_getElem (by rw [List.length_range]; exact h), List.getElem_range]; rfl
  · rw [List.getElem?_eq_none (Nat.le_of_not_lt h),
      List.getElem?_eq_none (by rw [List.length_range]; exact Nat.le_of_not_lt h)]; rfl

theorem reload_status {w : WState} {i : Nat} {t : Txn} (ht : w.db.txns[i]? = some t) :
    (reloadTxn (closeDb Defects.none w).aborted i).status = (deact t).status := by
  have hm : ∀ st, i ∈ idsWith st w.db.txns 0 ↔ t.status = st := fun st => by
    rw [mem_idsWith0, ht]; simp
  simp only [reloadTxn, closeDb, Defects.none, Bool.false_eq_true, if_false, List.contains_iff_mem, List.mem_append, hm,
    deact_status]
  cases t.status <;> simp

theorem reloaded_aborted (cfg : Config) (w : WState) (u : Nat)
    (h : statusIs w.db.txns .aborted u = true ∨ statusIs w.db.txns .active u = true) :
    statusIs (openDb cfg (closeDb Defects.none w)).db.txns .aborted u = true := by
  have : ∃ t, w.db.txns[u]? = some t ∧ (t.status = .aborted ∨ t.status = .active) := by
    rcases h with h | h <;> obtain ⟨t, ht, hs⟩ := (statusIs_iff _ _ _).1 h
    · exact ⟨t, ht, .inl hs⟩
    · exact ⟨t, ht, .inr hs⟩
  obtain ⟨t, ht, hs⟩ := this
  refine (statusIs_iff _ _ _).2 ⟨_, by rw [open_close_get, ht]; rfl, ?_⟩
  rw [reload_status ht, deact_status]
  rcases hs with hs | hs <;> simp [hs]

/-- **Close and open.**  What `open ∘ close` makes of a state is, up to erasure, the state in which every open
    transaction has been rolled back: the rows, the catalog, the counters are the same, the reloaded coordinator takes
    exactly the rolled-back and the unfinished transactions for rolled back and all others for committed, and the forgotten
    commit log concerns no transaction that is still running. -/
theorem open_close_E (cfg : Config) (w : WState) :
    E 0 (openDb cfg (closeDb Defects.none w)).db = E w.db.clog.length (quiesce w.db) := by
  have ht : (E 0 (openDb cfg (closeDb Defects.none w)).db).txns = (E w.db.clog.length (quiesce w.db)).txns := by
    apply List.ext_getElem?
    intro i
    simp only [E_get, open_close_get, quiesce_eq, List.getElem?_map]
    cases ht : w.db.txns[i]? with
    | none => rfl
    | some t =>
      have hd : (reloadTxn (closeDb Defects.none w).aborted i).status ≠ .active := by
        rw [reload_status ht]; exact deact_status_ne t
      simp only [Option.map_some]
      rw [eraseTxn_dead (deact_status_ne t), eraseTxn_dead hd, reload_status ht]
  simp only [E, openDb, closeDb, quiesce_eq, List.drop_nil, List.drop_length] at ht ⊢
  rw [ht]

theorem wf_open (cfg : Config) (R : Defects) (w : WState) : Wf 0 (openDb cfg (closeDb R w)).db :=
  .of_no_sessions (Nat.zero_le _) (fun _ _ _ _ => Nat.zero_le _) rfl

theorem wf_quiesce (σ : Db.State) : Wf σ.clog.length (quiesce σ) := by
  refine .of_no_sessions (Nat.le_refl _) (fun i t ht hact => ?_) rfl
  simp only [quiesce_eq, List.getElem?_map] at ht
  obtain ⟨t0, _, rfl⟩ := Option.map_eq_some_iff.1 ht
  exact (deact_status_ne t0 hact).elim

theorem quiesce_E {k k' : Nat} {σ τ : Db.State} (e : E k σ = E k' τ) :
    E σ.clog.length (quiesce σ) = E τ.clog.length (quiesce τ) := by
  have key : ∀ (k : Nat) (σ : Db.State), E σ.clog.length (quiesce σ) =
      { E k σ with txns := (E k σ).txns.map (fun t => (⟨dummySnap, (deact t).status, [], 0⟩ : Txn)), clog := [],
                    sessions := [] } := by
    intro k σ
    simp only [E, quiesce_eq, List.drop_length, List.map_map]
    congr 1
    apply List.map_congr_left
    intro t _
    simp only [Function.comp]
    rw [eraseTxn_dead (deact_status_ne t), deact_status, deact_status, eraseTxn_status]
  rw [key k σ, key k' τ, e]

theorem ka_quiesce (σ : Db.State) : KA σ (quiesce σ) := by
  refine ⟨by simp [quiesce_eq], fun u hu => ?_⟩
  obtain ⟨t, ht, hs⟩ := (statusIs_iff _ _ _).1 hu
  refine (statusIs_iff _ _ _).2 ⟨deact t, by simp [quiesce_eq, ht], ?_⟩
  rw [deact_status, hs]; rfl

theorem ka_open_close (cfg : Config) (w : WState) : KA w.db (openDb cfg (closeDb Defects.none w)).db :=
  ⟨by simp [openDb, closeDb], fun u hu => reloaded_aborted cfg w u (.inl hu)⟩

theorem stepW_fst (D : Db.Defects) (R : Defects) (ideal : Bool) (w : WState) (op : WOp) :
    (stepW D R ideal w op).1 = { (stepCoreW D R ideal w op).1 with
      db := { (stepCoreW D R ideal w op).1.db with clock := (stepCoreW D R ideal w op).1.db.clock + 1 } } := rfl

theorem stepW_snd (D : Db.Defects) (R : Defects) (ideal : Bool) (w : WState) (op : WOp) :
    (stepW D R ideal w op).2 = (stepCoreW D R ideal w op).2 := rfl

theorem runFromW_cons (D : Db.Defects) (R : Defects) (ideal : Bool) (w : WState) (op : WOp) (ops : List WOp)
    (acc : List WOut) : runFromW D R ideal w (op :: ops) acc =
      runFromW D R ideal (stepW D R ideal w op).1 ops ((stepW D R ideal w op).2 :: acc) := rfl

structure RelW (w v : WState) : Prop where
  db : EqE w.db v.db
  nextRow : w.nextRow = v.nextRow
  rmeta : w.rmeta = v.rmeta
  objs : w.objs = v.objs
  lastObject : w.lastObject = v.lastObject
  hdr : w.hdr = v.hdr
  env : w.env = v.env

theorem RelW.of_db {σ τ : Db.State} (h : EqE σ τ) {nr : List (String × Nat)} {rm : List RowMeta}
    {ob : List (String × Nat)} {lo : Nat} {hd : Header} {env : Env} :
    RelW ⟨σ, nr, rm, ob, lo, hd, env⟩ ⟨τ, nr, rm, ob, lo, hd, env⟩ :=
  ⟨h, rfl, rfl, rfl, rfl, rfl, rfl⟩

theorem RelW.mapDb {w v : WState} (h : RelW w v) {f : Db.State → Db.State} (hf : Commutes f) :
    RelW { w with db := f w.db } { v with db := f v.db } :=
  ⟨h.db.map hf, h.nextRow, h.rmeta, h.objs, h.lastObject, h.hdr, h.env⟩

theorem stepCoreW_rel (D : Db.Defects) {w v : WState} (h : RelW w v) (op : WOp) :
    RelW (stepCoreW D Defects.none false w op).1 (stepCoreW D Defects.none true v op).1 ∧
    (stepCoreW D Defects.none false w op).2 = (stepCoreW D Defects.none true v op).2 := by
  -- the two states are the same record except for `db`
  obtain ⟨σ, nr, rm, ob, lo, hd, env⟩ := w
  obtain ⟨τ, _, _, _, _, _, _⟩ := v
  obtain ⟨hdb, h1, h2, h3, h4, h5, h6⟩ := h
  simp only at hdb h1 h2 h3 h4 h5 h6
  subst h1 h2 h3 h4 h5 h6
  have hfind : ∀ t, (findTable σ.cat t).isSome = (findTable τ.cat t).isSome := fun t => by rw [hdb.cat]
  cases op with
  | db op =>
    obtain ⟨a1, a2⟩ := hdb.stepCore D op
    simp only [stepCoreW, Defects.none, Bool.false_and, Bool.false_eq_true, if_false, a1.rows, hdb.rows, a2]
    exact ⟨.of_db a1, trivial⟩
  | create ts =>
    simp only [stepCoreW, hfind]
    split
    · exact ⟨.of_db (hdb.map (commutes_fail D)), rfl⟩
    · exact ⟨.of_db (hdb.map (commutes_create D ts)), rfl⟩
  | dropTable t =>
    simp only [stepCoreW, hfind]
    split
    · exact ⟨.of_db (hdb.map (commutes_dropTable D t)), rfl⟩
    · exact ⟨.of_db (hdb.map (commutes_fail D)), rfl⟩
  | vacuum => exact ⟨.of_db (hdb.map (commutes_vacuum D)), rfl⟩
  | tid =>
    simp only [stepCoreW, hdb.length]
    exact ⟨.of_db (hdb.map (commutes_tick D)), trivial⟩
  | burn n => exact ⟨.of_db (hdb.map (commutes_burn D n)), rfl⟩
  | obs t =>
    simp only [stepCoreW, hfind, hdb.rows, hdb.fresh D]
    split
    · exact ⟨.of_db (hdb.map (commutes_tick D)), rfl⟩
    · exact ⟨.of_db (hdb.map (commutes_fail D)), rfl⟩
  | reopen leak cfg =>
    -- the sessions are dropped (or not) on both sides; then `open ∘ close` on one side is `quiesce` on the other
    have h1 : EqE (if leak then σ else dropAll σ) (if leak then τ else dropAll τ) := by
      cases leak
      · exact hdb.map commutes_dropAll
      · exact hdb
    obtain ⟨k, k', e, _, _⟩ := h1
    have hq := EqE.map ⟨0, _, (open_close_E cfg ⟨_, nr, rm, ob, lo, hd, env⟩).trans (quiesce_E e), wf_open cfg _ _,
      wf_quiesce _⟩ (commutes_tick D)
    cases leak <;> exact ⟨.of_db hq, rfl⟩

theorem runFromW_rel (D : Db.Defects) : ∀ (ops : List WOp) (w v : WState) (acc : List WOut), RelW w v →
    (runFromW D Defects.none false w ops acc).2 = (runFromW D Defects.none true v ops acc).2 ∧
    RelW (runFromW D Defects.none false w ops acc).1 (runFromW D Defects.none true v ops acc).1
  | [], _, _, _, h => ⟨rfl, h⟩
  | op :: ops, w, v, acc, h => by
    obtain ⟨a1, a2⟩ := stepCoreW_rel D h op
    rw [runFromW_cons, runFromW_cons, stepW_snd, stepW_snd, a2, stepW_fst, stepW_fst]
    exact runFromW_rel D ops _ _ _ (a1.mapDb (commutes_fields id id id (· + 1)))

theorem wf_init (cat : Catalog) : Wf 0 (Db.State.init cat) :=
  .of_no_sessions (Nat.zero_le _) (fun _ _ _ _ => Nat.zero_le _) rfl

theorem RelW.refl_of_wf {w : WState} {k : Nat} (h : Wf k w.db) : RelW w w :=
  ⟨⟨k, k, rfl, h, h⟩, rfl, rfl, rfl, rfl, rfl, rfl⟩

structure IdInv (w : WState) : Prop where
  /-- every row id handed out for a table is below the table's `next_row_id` -/
  rows : ∀ m ∈ w.rmeta, ∃ n, lookup m.table w.nextRow = some n ∧ m.rowId < n
  /-- every object id handed out to a table is below `last_stored_object` -/
  objs : ∀ p ∈ w.objs, p.2 < w.lastObject

theorem IdInv.of_ids {w w' : WState} (h : IdInv w) (e1 : w'.rmeta = w.rmeta := by rfl) (e2 : w'.nextRow = w.nextRow := by rfl)
    (e3 : w'.objs = w.objs := by rfl) (e4 : w'.lastObject = w.lastObject := by rfl) : IdInv w' :=
  ⟨by rw [e1, e2]; exact h.rows, by rw [e3, e4]; exact h.objs⟩

theorem lookup_bump (s t : String) : ∀ (l : List (String × Nat)),
    lookup s (bump t l) = if s = t then (lookup s l).map (· + 1) else lookup s l
  | [] => by simp [bump, lookup]
  | (k, n) :: rest => by
    have ih := lookup_bump s t rest
    by_cases e : k = t <;> by_cases e2 : k = s <;> by_cases e3 : s = t <;> simp_all [bump, lookup]

theorem assign_inv (rows : List Row) (nr : List (String × Nat)) (m : List RowMeta)
    (h : ∀ x ∈ m, ∃ n, lookup x.table nr = some n ∧ x.rowId < n) :
    ∀ x ∈ (assign nr m rows).2, ∃ n, lookup x.table (assign nr m rows).1 = some n ∧ x.rowId < n := by
  fun_induction assign nr m rows with
  | case1 => exact h
  | case2 nr m r rs n hl ih =>
    -- the row gets id `n`, and the counter of its table goes to `n + 1`
    refine ih fun x hx => ?_
    rw [lookup_bump]
    rcases List.mem_append.1 hx with hx | hx
    · obtain ⟨n', h1, h2⟩ := h x hx
      split
      · exact ⟨n' + 1, by rw [h1]; rfl, Nat.lt_succ_of_lt h2⟩
      · exact ⟨n', h1, h2⟩
    · cases List.mem_singleton.1 hx
      exact ⟨n + 1, by rw [if_pos rfl, hl]; rfl, Nat.lt_succ_self n⟩
  | case3 nr m r rs hl ih => exact ih h

theorem IdInv.create {w : WState} (h : IdInv w) (σ : Db.State) (ts : TableSchema) :
    IdInv { w with db := σ, nextRow := w.nextRow ++ [(ts.name, 0)], objs := w.objs ++ [(ts.name, w.lastObject)],
                   lastObject := w.lastObject + objectsOf ts } := by
  refine ⟨fun m hm => ?_, fun p hp => ?_⟩
  · obtain ⟨n, h1, h2⟩ := h.rows m hm
    exact ⟨n, lookup_append_some _ _ _ _ h1, h2⟩
  · rcases List.mem_append.1 hp with hp | hp
    · exact Nat.lt_add_right _ (h.objs p hp)
    · cases List.mem_singleton.1 hp
      exact Nat.lt_add_of_pos_right (Nat.add_pos_left Nat.one_pos _)

theorem IdInv.drop {w : WState} (h : IdInv w) (σ : Db.State) (t : String) :
    IdInv { w with db := σ, nextRow := erase t w.nextRow, objs := erase t w.objs,
                   rmeta := w.rmeta.filter (fun x => x.table != t) } := by
  refine ⟨fun m hm => ?_, fun p hp => h.objs p (mem_erase_of t _ p hp)⟩
  obtain ⟨hm1, hm2⟩ := List.mem_filter.1 hm
  obtain ⟨n, h1, h2⟩ := h.rows m hm1
  exact ⟨n, by rw [lookup_erase_if, if_neg (by simpa using hm2)]; exact h1, h2⟩

def WfW (w : WState) : Prop := ∃ k, Wf k w.db

theorem WOp.reopen_or (op : WOp) : (∃ leak cfg, op = .reopen leak cfg) ∨ ∀ leak cfg, op ≠ .reopen leak cfg := by
  by_cases h : ∃ leak cfg, op = .reopen leak cfg
  · exact .inl h
  · exact .inr fun leak cfg e => h ⟨leak, cfg, e⟩

/-- **What an operation other than `reopen` does.**  The state of the MVCC machine goes through a function that commutes
    with the erasure; the id bookkeeping is left alone, or goes through `assign`, or gains or loses a table, and in
    each case keeps its invariant. -/
theorem stepCoreW_shape (D : Db.Defects) (R : Defects) (ideal : Bool) (w : WState) (op : WOp)
    (hop : ∀ leak cfg, op ≠ .reopen leak cfg) :
    (∃ f, Commutes f ∧ (stepCoreW D R ideal w op).1.db = f w.db) ∧ (IdInv w → IdInv (stepCoreW D R ideal w op).1) := by
  cases op with
  | db op =>
    simp only [stepCoreW]
    split
    · exact ⟨⟨id, commutes_id, rfl⟩, id⟩
    · exact ⟨⟨_, commutes_stepCore D op, rfl⟩, fun h => ⟨assign_inv _ _ _ h.rows, h.objs⟩⟩
  | create ts =>
    simp only [stepCoreW]
    split
    · exact ⟨⟨_, commutes_fail D, rfl⟩, fun h => h.of_ids⟩
    · exact ⟨⟨_, commutes_create D ts, rfl⟩, fun h => h.create _ ts⟩
  | dropTable t =>
    simp only [stepCoreW]
    split
    · exact ⟨⟨_, commutes_dropTable D t, rfl⟩, fun h => h.drop _ t⟩
    · exact ⟨⟨_, commutes_fail D, rfl⟩, fun h => h.of_ids⟩
  | vacuum => exact ⟨⟨_, commutes_vacuum D, rfl⟩, fun h => h.of_ids⟩
  | tid => exact ⟨⟨_, commutes_tick D, rfl⟩, fun h => h.of_ids⟩
  | burn n => exact ⟨⟨_, commutes_burn D n, rfl⟩, fun h => h.of_ids⟩
  | obs t =>
    simp only [stepCoreW]
    split
    · exact ⟨⟨_, commutes_tick D, rfl⟩, fun h => h.of_ids⟩
    · exact ⟨⟨_, commutes_fail D, rfl⟩, fun h => h.of_ids⟩
  | reopen leak cfg => exact (hop leak cfg rfl).elim

/-- **What `reopen` does.**  The sessions are dropped or not (`w1`); then the machine that never restarts rolls back what
    is still open, the other one closes and opens; both run the empty transaction of recovery. -/
theorem stepCoreW_reopen (D : Db.Defects) (R : Defects) (ideal : Bool) (w : WState) (leak : Bool) (cfg : Config) :
    ∃ w1, (w1 = w ∨ w1 = { w with db := dropAll w.db }) ∧
      ((stepCoreW D R ideal w (.reopen leak cfg)).1 =
          { w1 with db := tickDb D (quiesce w1.db), env := ⟨AxVerif.Config.effectiveAtOpen {} w1.hdr, cfg.poolSize⟩ } ∨
       (stepCoreW D R ideal w (.reopen leak cfg)).1 =
          { openDb cfg (closeDb R w1) with db := tickDb D (openDb cfg (closeDb R w1)).db }) := by
  cases leak <;> cases ideal
  · exact ⟨_, .inr rfl, .inr rfl⟩
  · exact ⟨_, .inr rfl, .inl rfl⟩
  · exact ⟨_, .inl rfl, .inr rfl⟩
  · exact ⟨_, .inl rfl, .inl rfl⟩

/-- The cut point is existential (`WfW`) because `reopen` moves it. -/
theorem stepW_wf_ka (D : Db.Defects) (ideal : Bool) {w : WState} (h : WfW w) (op : WOp) :
    WfW (stepW D Defects.none ideal w op).1 ∧ KA w.db (stepW D Defects.none ideal w op).1.db := by
  obtain ⟨k, hk⟩ := h
  have hc := commutes_fields id id id (· + 1)
  rw [stepW_fst]
  rcases op.reopen_or with ⟨leak, cfg, rfl⟩ | hop
  · obtain ⟨w1, hw1, e⟩ := stepCoreW_reopen D Defects.none ideal w leak cfg
    have h1 : KA w.db w1.db := by
      rcases hw1 with rfl | rfl
      · exact KA.refl _
      · exact commutes_dropAll.ka k _ hk
    have ht := (commutes_tick D).comp hc
    rcases e with e | e <;> rw [e]
    · exact ⟨⟨_, ht.wf _ _ (wf_quiesce w1.db)⟩, h1.trans ((ka_quiesce w1.db).trans (ht.ka _ _ (wf_quiesce w1.db)))⟩
    · exact ⟨⟨0, ht.wf 0 _ (wf_open cfg _ w1)⟩, h1.trans ((ka_open_close cfg w1).trans (ht.ka 0 _ (wf_open cfg _ w1)))⟩
  · obtain ⟨f, hf, e⟩ := (stepCoreW_shape D Defects.none ideal w op hop).1
    rw [e]
    exact ⟨⟨k, (hf.comp hc).wf k _ hk⟩, (hf.comp hc).ka k _ hk⟩

theorem runFromW_inv (D : Db.Defects) (R : Defects) (ideal : Bool) (P : WState → Prop)
    (hstep : ∀ w op, P w → P (stepW D R ideal w op).1) :
    ∀ (ops : List WOp) (w : WState) (acc : List WOut), P w → P (runFromW D R ideal w ops acc).1
  | [], _, _, h => h
  | op :: ops, w, acc, h => by
    rw [runFromW_cons]
    exact runFromW_inv D R ideal P hstep ops _ _ (hstep w op h)

theorem wfW_init (cfg : Config) : WfW (WState.init cfg) := ⟨0, wf_init []⟩

theorem runFromW_wf_ka (D : Db.Defects) (ideal : Bool) : ∀ (ops : List WOp) (w : WState) (acc : List WOut), WfW w →
    WfW (runFromW D Defects.none ideal w ops acc).1 ∧ KA w.db (runFromW D Defects.none ideal w ops acc).1.db
  | [], w, _, h => ⟨h, KA.refl _⟩
  | op :: ops, w, acc, h => by
    obtain ⟨h1, k1⟩ := stepW_wf_ka D ideal h op
    obtain ⟨h2, k2⟩ := runFromW_wf_ka D ideal ops _ ((stepW D Defects.none ideal w op).2 :: acc) h1
    rw [runFromW_cons]
    exact ⟨h2, k1.trans k2⟩

theorem stepW_idInv (D : Db.Defects) (R : Defects) (ideal : Bool) {w : WState} (h : IdInv w) (op : WOp) :
    IdInv (stepW D R ideal w op).1 := by
  have h' : IdInv (stepCoreW D R ideal w op).1 := by
    rcases op.reopen_or with ⟨leak, cfg, rfl⟩ | hop
    · -- close and open carry the counters and the ids over unchanged
      obtain ⟨w1, hw1, e⟩ := stepCoreW_reopen D R ideal w leak cfg
      have h1 : IdInv w1 := by rcases hw1 with rfl | rfl <;> exact h.of_ids
      rcases e with e | e <;> rw [e] <;> exact h1.of_ids
    · exact (stepCoreW_shape D R ideal w op hop).2 h
  rw [stepW_fst]
  exact h'.of_ids

theorem idInv_init (cfg : Config) : IdInv (WState.init cfg) :=
  ⟨fun m hm => (by cases hm), fun p hp => (by cases hp)⟩

def WOp.setCfg (f : Config → Config) : WOp → WOp
  | .reopen leak cfg => .reopen leak (f cfg)
  | op => op

def EnvEq (w w' : WState) : Prop := { w with env := w'.env } = w'

theorem EnvEq.mapDb {w w' : WState} (h : EnvEq w w') (g : Db.State → Db.State) :
    EnvEq { w with db := g w.db } { w' with db := g w'.db } := by
  obtain ⟨db, nr, rm, ob, lo, hd, env⟩ := w
  obtain ⟨_, _, _, _, _, _, env'⟩ := w'
  cases h
  rfl

/-- no operation reads the in-memory settings, and `reopen` takes only the pool size from its configuration -/
theorem stepCoreW_envEq (D : Db.Defects) (R : Defects) (ideal : Bool) (f : Config → Config) {w w' : WState}
    (h : EnvEq w w') (op : WOp) :
    EnvEq (stepCoreW D R ideal w op).1 (stepCoreW D R ideal w' (op.setCfg f)).1 ∧
    (stepCoreW D R ideal w op).2 = (stepCoreW D R ideal w' (op.setCfg f)).2 := by
  obtain ⟨db, nr, rm, ob, lo, hd, env⟩ := w
  obtain ⟨_, _, _, _, _, _, env'⟩ := w'
  cases h
  cases op with
  | db op =>
    simp only [stepCoreW, WOp.setCfg]
    split <;> constructor <;> rfl
  | create ts =>
    simp only [stepCoreW, WOp.setCfg]
    split <;> constructor <;> rfl
  | dropTable t =>
    simp only [stepCoreW, WOp.setCfg]
    split <;> constructor <;> rfl
  | vacuum => constructor <;> rfl
  | tid => constructor <;> rfl
  | burn n => constructor <;> rfl
  | obs t =>
    simp only [stepCoreW, WOp.setCfg]
    split <;> constructor <;> rfl
  | reopen leak cfg => cases leak <;> cases ideal <;> constructor <;> rfl

theorem runFromW_envEq (D : Db.Defects) (R : Defects) (ideal : Bool) (f : Config → Config) :
    ∀ (ops : List WOp) (w w' : WState) (acc : List WOut), EnvEq w w' →
    (runFromW D R ideal w ops acc).2 = (runFromW D R ideal w' (ops.map (WOp.setCfg f)) acc).2
  | [], _, _, _, _ => rfl
  | op :: ops, w, w', acc, h => by
    obtain ⟨a1, a2⟩ := stepCoreW_envEq D R ideal f h op
    rw [List.map_cons, runFromW_cons, runFromW_cons, stepW_snd, stepW_snd, a2, stepW_fst, stepW_fst]
    exact runFromW_envEq D R ideal f ops _ _ _ (a1.mapDb fun σ => { σ with clock := σ.clock + 1 })

end AxVerif.Reopen
