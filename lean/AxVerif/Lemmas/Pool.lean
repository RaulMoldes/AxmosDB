/- Helper lemmas for the worker-pool model (C16): the bookkeeping invariant of `step`, its consequences,
   and the termination measure of the internal steps. -/
import AxVerif.Model.Pool
namespace AxVerif.Pool

def allIds (s : State) : List Nat :=
  s.resp.map (·.1) ++ (s.busy.map (·.id) ++ s.queue.map (·.id))

/-- Bookkeeping invariant, relative to the pool size `n` and the kinds `ks` submitted so far. -/
structure Inv (n : Nat) (D : Defects) (ks : List Kind) (s : State) : Prop where
  next_eq : s.next = ks.length
  /-- every submitted job is in exactly one place, exactly once -/
  perm : (allIds s).Perm (List.range s.next)
  busyKind : ∀ j ∈ s.busy, ks[j.id]? = some j.kind
  queueKind : ∀ j ∈ s.queue, ks[j.id]? = some j.kind
  respKind : ∀ p ∈ s.resp, ∃ k, ks[p.1]? = some k ∧ p.2 = respOf k
  workers : s.idle + s.busy.length + s.dead = n
  dead0 : D.panicKillsWorker = false → s.dead = 0

theorem take_eq_none {s : State} : take s = none ↔ s.queue = [] ∨ s.idle = 0 := by
  unfold take
  cases hq : s.queue with
  | nil => simp
  | cons j q => by_cases hi : s.idle = 0 <;> simp [hi]

theorem take_some {s s' : State} (h : take s = some s') :
    ∃ j q, s.queue = j :: q ∧ s'.queue = q ∧ s'.busy = s.busy ++ [j] ∧ s'.idle + 1 = s.idle ∧
      s'.dead = s.dead ∧ s'.resp = s.resp ∧ s'.next = s.next := by
  revert h
  fun_cases take s with
  | case1 hq => exact nofun
  | case2 j q hq hi => exact nofun
  | case3 j q hq hi =>
    intro h
    cases h
    exact ⟨j, q, hq, rfl, rfl, Nat.sub_add_cancel (Nat.pos_of_ne_zero hi), rfl, rfl, rfl⟩

theorem finish_eq_none {D : Defects} {s : State} {i : Nat} : finish D s i = none ↔ s.busy.length ≤ i := by
  unfold finish
  cases hd : s.busy.drop i with
  | nil => exact ⟨fun _ => List.drop_eq_nil_iff.mp hd, fun _ => rfl⟩
  | cons j post =>
    have hlt : ¬ s.busy.length ≤ i := fun hle => by rw [List.drop_eq_nil_iff.mpr hle] at hd; cases hd
    simp only [hlt, iff_false]
    split <;> exact Option.some_ne_none _

theorem finish_some {D : Defects} {s s' : State} {i : Nat} (h : finish D s i = some s') :
    ∃ pre j post, pre = s.busy.take i ∧ s.busy = pre ++ j :: post ∧ s'.busy = pre ++ post ∧
      s'.resp = s.resp ++ [(j.id, respOf j.kind)] ∧ s'.queue = s.queue ∧ s'.next = s.next ∧
      ((D.panicKillsWorker = true ∧ j.kind = .panic) ∧ s'.idle = s.idle ∧ s'.dead = s.dead + 1 ∨
       ¬ (D.panicKillsWorker = true ∧ j.kind = .panic) ∧ s'.idle = s.idle + 1 ∧ s'.dead = s.dead) := by
  unfold finish at h
  split at h
  · cases h
  · rename_i j post hd
    have hb : s.busy = s.busy.take i ++ j :: post := by rw [← hd, List.take_append_drop]
    split at h
    · rename_i hc
      cases h
      rw [Bool.and_eq_true, beq_iff_eq] at hc
      exact ⟨_, j, post, rfl, hb, rfl, rfl, rfl, rfl, Or.inl ⟨hc, rfl, rfl⟩⟩
    · rename_i hc
      cases h
      rw [Bool.and_eq_true, beq_iff_eq] at hc
      exact ⟨_, j, post, rfl, hb, rfl, rfl, rfl, rfl, Or.inr ⟨hc, rfl, rfl⟩⟩

theorem take_next {s s' : State} (h : take s = some s') : s'.next = s.next :=
  let ⟨_, _, _, _, _, _, _, _, hn⟩ := take_some h
  hn

theorem take_enabled {s : State} (hq : s.queue ≠ []) (hi : 0 < s.idle) : (take s).isSome = true :=
  Option.isSome_iff_ne_none.mpr fun h => (take_eq_none.mp h).elim hq (Nat.ne_of_gt hi)

theorem finish_none_of_busy_nil (D : Defects) {s : State} (hb : s.busy = []) (i : Nat) : finish D s i = none :=
  finish_eq_none.mpr (by rw [hb]; exact Nat.zero_le i)

theorem busy_nil_of_finish_none {D : Defects} {s : State} (h : finish D s 0 = none) : s.busy = [] :=
  List.eq_nil_of_length_eq_zero (Nat.le_zero.mp (finish_eq_none.mp h))

theorem finish_enabled (D : Defects) {s : State} (hb : s.busy ≠ []) : (finish D s 0).isSome = true :=
  Option.isSome_iff_ne_none.mpr fun h => hb (busy_nil_of_finish_none h)

theorem take_measure {s s' : State} (h : take s = some s') : measure s' + 1 = measure s := by
  obtain ⟨j, q, hq, hq', hb', -⟩ := take_some h
  unfold measure
  rw [hq', hb', hq, List.length_append, List.length_cons]
  exact Nat.add_right_comm (2 * q.length) s.busy.length 2

theorem finish_measure {D} {s s' : State} {i : Nat} (h : finish D s i = some s') :
    measure s' + 1 = measure s := by
  obtain ⟨pre, j, post, -, hb, hb', -, hq', -⟩ := finish_some h
  unfold measure
  rw [hb', hq', hb, List.length_append, List.length_append, List.length_cons]
  rfl

theorem measure_eq_zero {s : State} : measure s = 0 ↔ s.busy = [] ∧ s.queue = [] := by
  unfold measure
  constructor
  · intro h
    obtain ⟨h1, h2⟩ := Nat.add_eq_zero_iff.mp h
    exact ⟨List.eq_nil_of_length_eq_zero h2,
      List.eq_nil_of_length_eq_zero ((Nat.mul_eq_zero.mp h1).resolve_left (by decide))⟩
  · rintro ⟨hb, hq⟩
    rw [hb, hq]; rfl

theorem quiescent_iff (s : State) : quiescent s = true ↔ s.busy = [] ∧ (s.queue = [] ∨ s.idle = 0) := by
  simp [quiescent, List.isEmpty_iff]

theorem run_cons {D : Defects} {s s' : State} {st : Step} {tr : List Step} :
    run D s (st :: tr) = some s' ↔ ∃ s1, step D s st = some s1 ∧ run D s1 tr = some s' := by
  rw [run]
  cases step D s st with
  | none => exact ⟨fun h => (nomatch h), fun ⟨_, h, _⟩ => (nomatch h)⟩
  | some s1 => exact ⟨fun h => ⟨s1, rfl, h⟩, fun ⟨_, h, hr⟩ => Option.some.inj h ▸ hr⟩

theorem run_append {D : Defects} {tr1 : List Step} {s s1 s2 : State} {tr2 : List Step}
    (h1 : run D s tr1 = some s1) (h2 : run D s1 tr2 = some s2) : run D s (tr1 ++ tr2) = some s2 := by
  induction tr1 generalizing s with
  | nil => cases h1; exact h2
  | cons st tr1 ih =>
    obtain ⟨s', hs, hr⟩ := run_cons.mp h1
    exact run_cons.mpr ⟨s', hs, ih hr⟩

theorem run_invariant {D : Defects} {P : List Kind → State → Prop}
    (hsubmit : ∀ {ks s} (k : Kind), P ks s → P (ks ++ [k]) (submit s k))
    (htake : ∀ {ks s s'}, P ks s → take s = some s' → P ks s')
    (hfinish : ∀ {ks s s'} (i : Nat), P ks s → finish D s i = some s' → P ks s')
    (tr : List Step) {ks : List Kind} {s s' : State} (h : P ks s) (hr : run D s tr = some s') :
    P (ks ++ submitted tr) s' := by
  induction tr generalizing ks s with
  | nil => cases hr; rw [submitted, List.append_nil]; exact h
  | cons st tr ih =>
    obtain ⟨s1, hs, hr1⟩ := run_cons.mp hr
    cases st with
    | submit k =>
      cases hs
      have := ih (hsubmit k h) hr1
      rwa [List.append_assoc] at this
    | take => exact ih (htake h hs) hr1
    | finish i => exact ih (hfinish i h hs) hr1

theorem submitted_append (a b : List Step) : submitted (a ++ b) = submitted a ++ submitted b := by
  induction a with
  | nil => rfl
  | cons st a ih => cases st <;> simp only [List.cons_append, submitted, ih]

theorem submitted_internal (tr : List Step) (h : ∀ st ∈ tr, st.internal = true) : submitted tr = [] := by
  induction tr with
  | nil => rfl
  | cons st tr ih =>
    obtain ⟨h1, h2⟩ := List.forall_mem_cons.mp h
    cases st with
    | submit k => cases h1
    | take => exact ih h2
    | finish i => exact ih h2

theorem submitted_append_internal (tr tr1 : List Step) (h : ∀ st ∈ tr1, st.internal = true) :
    submitted (tr ++ tr1) = submitted tr := by
  rw [submitted_append, submitted_internal tr1 h, List.append_nil]

theorem stuck_run (D : Defects) (tr : List Step) (s s' : State) (hi : s.idle = 0) (hb : s.busy = [])
    (hr : run D s tr = some s') : s'.idle = 0 ∧ s'.busy = [] ∧ s'.resp = s.resp :=
  run_invariant (D := D) (P := fun _ x => x.idle = 0 ∧ x.busy = [] ∧ x.resp = s.resp)
    (fun _ h => h)
    (fun h ht => by rw [take_eq_none.mpr (Or.inr h.1)] at ht; cases ht)
    (fun i h hf => by rw [finish_none_of_busy_nil D h.2.1 i] at hf; cases hf)
    tr (ks := []) ⟨hi, hb, rfl⟩ hr

theorem inv_init (n : Nat) (D : Defects) : Inv n D [] (init n) :=
  ⟨rfl, .refl _, nofun, nofun, nofun, rfl, fun _ => rfl⟩

private theorem getElem?_append_some {ks : List Kind} {i : Nat} {k : Kind} (k' : List Kind)
    (h : ks[i]? = some k) : (ks ++ k')[i]? = some k := by
  obtain ⟨hi, -⟩ := List.getElem?_eq_some_iff.mp h
  rw [List.getElem?_append_left hi]; exact h

theorem inv_submit {n D ks s} (k : Kind) (h : Inv n D ks s) : Inv n D (ks ++ [k]) (submit s k) where
  next_eq := by rw [List.length_append]; exact congrArg (· + 1) h.next_eq
  perm := by
    -- the new id comes last, in `allIds` as in `range`
    simp only [submit, allIds, List.map_append, List.map_cons, List.map_nil, List.range_succ]
    rw [← List.append_assoc (s.busy.map _), ← List.append_assoc]
    exact h.perm.append_right _
  busyKind := fun j hj => getElem?_append_some _ (h.busyKind j hj)
  queueKind := fun j hj => by
    rcases List.mem_append.mp hj with hj | hj
    · exact getElem?_append_some _ (h.queueKind j hj)
    · rw [List.mem_singleton.mp hj]
      show (ks ++ [k])[s.next]? = some k
      rw [h.next_eq]; exact List.getElem?_concat_length
  respKind := fun p hp =>
    let ⟨k0, hk0, hr⟩ := h.respKind p hp
    ⟨k0, getElem?_append_some _ hk0, hr⟩
  workers := h.workers
  dead0 := h.dead0

theorem inv_take {n D ks s s'} (h : Inv n D ks s) (ht : take s = some s') : Inv n D ks s' := by
  obtain ⟨j, q, hq, hq', hb', hi', hd', hr', hn'⟩ := take_some ht
  have hqs : ∀ x ∈ j :: q, ks[x.id]? = some x.kind := hq ▸ h.queueKind
  refine ⟨hn' ▸ h.next_eq, ?_, ?_, ?_, hr' ▸ h.respKind, ?_, hd' ▸ h.dead0⟩
  · -- `j` moves from the head of the queue to the end of `busy`: the list of ids stays the same
    have : allIds s' = allIds s := by
      simp only [allIds, hq, hq', hb', hr', List.map_append, List.map_cons, List.map_nil, List.append_assoc,
        List.singleton_append]
    rw [this, hn']; exact h.perm
  · intro x hx
    rw [hb'] at hx
    rcases List.mem_append.mp hx with hx | hx
    · exact h.busyKind x hx
    · exact hqs x (List.mem_singleton.mp hx ▸ List.mem_cons_self)
  · intro x hx
    rw [hq'] at hx
    exact hqs x (List.mem_cons_of_mem _ hx)
  · rw [hb', List.length_append, List.length_singleton, hd', ← h.workers, ← hi', Nat.add_right_comm s'.idle 1]
    rfl

theorem inv_finish {n D ks s s'} (i : Nat) (h : Inv n D ks s) (hf : finish D s i = some s') :
    Inv n D ks s' := by
  obtain ⟨pre, j, post, -, hb, hb', hr', hq', hn', hw⟩ := finish_some hf
  have hbs : ∀ x ∈ pre ++ j :: post, ks[x.id]? = some x.kind := hb ▸ h.busyKind
  refine ⟨hn' ▸ h.next_eq, ?_, ?_, hq' ▸ h.queueKind, ?_, ?_, ?_⟩
  · -- the id of `j` moves from the middle of the running jobs to the end of the answered ones
    have := h.perm
    simp only [allIds, hb, List.map_append, List.map_cons, List.append_assoc, List.cons_append] at this
    simp only [allIds, hb', hr', hq', hn', List.map_append, List.map_cons, List.map_nil, List.append_assoc,
      List.singleton_append]
    exact (List.perm_middle.symm.append_left _).trans this
  · intro x hx
    rw [hb'] at hx
    rcases List.mem_append.mp hx with hx | hx
    · exact hbs x (List.mem_append_left _ hx)
    · exact hbs x (List.mem_append_right _ (List.mem_cons_of_mem _ hx))
  · intro p hp
    rw [hr'] at hp
    rcases List.mem_append.mp hp with hp | hp
    · exact h.respKind p hp
    · rw [List.mem_singleton.mp hp]
      exact ⟨j.kind, hbs j (List.mem_append_right _ List.mem_cons_self), rfl⟩
  · -- one running job less, and its worker is idle or dead
    have hw' : s.idle + (pre.length + post.length) + 1 + s.dead = n := by
      have := h.workers
      rwa [hb, List.length_append, List.length_cons] at this
    rw [hb', List.length_append]
    rcases hw with ⟨-, hi', hd'⟩ | ⟨-, hi', hd'⟩
    · rw [hi', hd']
      exact (Nat.add_right_comm _ 1 _).symm.trans hw'
    · rw [hi', hd', Nat.add_right_comm s.idle 1]
      exact hw'
  · intro hD
    have := h.dead0 hD
    rcases hw with ⟨⟨hk, -⟩, -⟩ | ⟨-, -, hd'⟩
    · rw [hD] at hk; cases hk
    · rw [hd']; exact this

theorem inv_reachable {n D tr s} (hr : run D (init n) tr = some s) : Inv n D (submitted tr) s := by
  have := run_invariant (P := Inv n D) inv_submit inv_take inv_finish tr (inv_init n D) hr
  rwa [List.nil_append] at this

theorem count_resp_le_one {n D ks s} (h : Inv n D ks s) (i : Nat) :
    (s.resp.map (·.1)).count i ≤ 1 := by
  have := h.perm.count_eq i
  rw [List.count_range, allIds, List.count_append] at this
  split at this <;> omega

theorem taken_perm {n D ks s} (h : Inv n D ks s) {t : Nat} (ht : t + s.queue.length = s.next)
    (hq : s.queue.map (·.id) = List.range' t s.queue.length) :
    (s.resp.map (·.1) ++ s.busy.map (·.id)).Perm (List.range t) := by
  have hp := h.perm
  unfold allIds at hp
  rw [← List.append_assoc, hq] at hp
  have hr : List.range s.next = List.range t ++ List.range' t s.queue.length := by
    rw [← ht, List.range_eq_range', List.range_eq_range']
    have := @List.range'_append 0 t s.queue.length 1
    rw [Nat.one_mul, Nat.zero_add] at this
    exact this.symm
  rw [hr] at hp
  exact (List.perm_append_right_iff _).mp hp

theorem quiescent_none {n ks s} (h : Inv n Defects.none ks s) (hn : 0 < n) (hq : quiescent s = true) :
    s.busy = [] ∧ s.queue = [] := by
  obtain ⟨hb, hq⟩ := (quiescent_iff s).mp hq
  refine ⟨hb, hq.resolve_right fun hi => ?_⟩
  have hw := h.workers
  rw [hb, hi, h.dead0 rfl] at hw
  exact absurd hw (Nat.ne_of_lt hn)

theorem response_cases (s : State) (i : Nat) :
    (response s i = none ∧ i ∉ s.resp.map (·.1)) ∨ ∃ r, response s i = some r ∧ (i, r) ∈ s.resp := by
  fun_cases response s i with
  | case1 p hfind =>
    have hp : (p.1 == i) = true := List.find?_some (p := fun q : Nat × Resp => q.1 == i) hfind
    exact .inr ⟨p.2, rfl, beq_iff_eq.mp hp ▸ List.mem_of_find?_eq_some hfind⟩
  | case2 hfind =>
    refine .inl ⟨rfl, fun hm => ?_⟩
    obtain ⟨p, hp, hpi⟩ := List.mem_map.mp hm
    exact absurd (beq_iff_eq.mpr hpi) (List.find?_eq_none.mp hfind p hp)

theorem response_some {s : State} {i : Nat} {r : Resp} (h : response s i = some r) : (i, r) ∈ s.resp := by
  rcases response_cases s i with ⟨hn, _⟩ | ⟨r', hr', hm⟩
  · rw [hn] at h; cases h
  · rw [hr'] at h; cases h; exact hm

theorem response_eq_none {s : State} {i : Nat} : response s i = none ↔ i ∉ s.resp.map (·.1) := by
  rcases response_cases s i with ⟨hn, hm⟩ | ⟨r', hr', hm⟩
  · exact ⟨fun _ => hm, fun _ => hn⟩
  · refine ⟨fun h => ?_, fun h => absurd (List.mem_map.mpr ⟨_, hm, rfl⟩) h⟩
    rw [hr'] at h
    cases h

theorem response_of_answered {n D ks s} (h : Inv n D ks s) {i : Nat} {k : Kind}
    (hm : i ∈ s.resp.map (·.1)) (hk : ks[i]? = some k) : response s i = some (respOf k) := by
  cases hr : response s i with
  | none => exact absurd hm (response_eq_none.mp hr)
  | some r =>
    obtain ⟨k', hk', hrk⟩ := h.respKind _ (response_some hr)
    cases hk.symm.trans hk'
    exact congrArg some hrk

theorem drain_spec (D : Defects) (fuel : Nat) (s : State) (h : measure s < fuel) :
    ∃ tr, (∀ st ∈ tr, st.internal = true) ∧ run D s tr = some (drain D fuel s) ∧
      quiescent (drain D fuel s) = true := by
  fun_induction drain D fuel s with
  | case1 s => exact absurd h (Nat.not_lt_zero _)
  | case2 fuel s s1 ht ih =>
    rw [← take_measure ht] at h
    obtain ⟨tr, h1, h2, h3⟩ := ih (Nat.lt_of_succ_lt_succ h)
    exact ⟨.take :: tr, List.forall_mem_cons.mpr ⟨rfl, h1⟩, run_cons.mpr ⟨s1, ht, h2⟩, h3⟩
  | case3 fuel s ht s1 hf ih =>
    rw [← finish_measure hf] at h
    obtain ⟨tr, h1, h2, h3⟩ := ih (Nat.lt_of_succ_lt_succ h)
    exact ⟨.finish 0 :: tr, List.forall_mem_cons.mpr ⟨rfl, h1⟩, run_cons.mpr ⟨s1, hf, h2⟩, h3⟩
  | case4 fuel s ht hf =>
    exact ⟨[], fun _ h => absurd h List.not_mem_nil, rfl,
      (quiescent_iff s).mpr ⟨busy_nil_of_finish_none hf, take_eq_none.mp ht⟩⟩

def Op.kinds : Op → List Kind
  | .call k => [k]
  | .burst ks => ks

theorem foldl_submit_run (D : Defects) (ks : List Kind) (s : State) :
    run D s (ks.map Step.submit) = some (ks.foldl submit s) ∧ submitted (ks.map Step.submit) = ks := by
  induction ks generalizing s with
  | nil => exact ⟨rfl, rfl⟩
  | cons k ks ih => exact ⟨run_cons.mpr ⟨_, rfl, (ih (submit s k)).1⟩, congrArg (k :: ·) (ih (submit s k)).2⟩

theorem execOp_run (D : Defects) (s : State) (op : Op) :
    ∃ tr, run D s tr = some (execOp D s op) ∧ submitted tr = op.kinds ∧ quiescent (execOp D s op) = true := by
  have : execOp D s op = settle D (op.kinds.foldl submit s) := by cases op <;> rfl
  rw [this]
  obtain ⟨h1, h2⟩ := foldl_submit_run D op.kinds s
  obtain ⟨tr, h3, h4, h5⟩ := drain_spec D _ (op.kinds.foldl submit s) (Nat.lt_succ_self _)
  exact ⟨op.kinds.map Step.submit ++ tr, run_append h1 h4, by rw [submitted_append_internal _ _ h3, h2], h5⟩

theorem exec_run_from (D : Defects) (ops : List Op) (s : State) (hq : quiescent s = true) :
    ∃ tr, run D s tr = some (ops.foldl (execOp D) s) ∧ submitted tr = (ops.map Op.kinds).flatten ∧
      quiescent (ops.foldl (execOp D) s) = true := by
  induction ops generalizing s with
  | nil => exact ⟨[], rfl, rfl, hq⟩
  | cons op ops ih =>
    obtain ⟨tr1, h1, h2, h3⟩ := execOp_run D s op
    obtain ⟨tr2, h4, h5, h6⟩ := ih (execOp D s op) h3
    refine ⟨tr1 ++ tr2, run_append h1 h4, ?_, h6⟩
    rw [submitted_append, h2, h5, List.map_cons, List.flatten_cons]

/-- the shipped worker loop -/
def shipped : Defects := { panicKillsWorker := true }

def isPanicId (ks : List Kind) (i : Nat) : Bool := ks[i]? == some Kind.panic

def panicsBefore (ks : List Kind) (i : Nat) : Nat := (ks.take i).count Kind.panic

theorem countP_range_isPanic (ks : List Kind) (t : Nat) : (List.range t).countP (isPanicId ks) = panicsBefore ks t := by
  induction t with
  | zero => rfl
  | succ t ih =>
    rw [List.range_succ, List.countP_append, ih, List.countP_singleton]
    unfold panicsBefore isPanicId
    rw [List.take_add_one, List.count_append]
    cases h : ks[t]? with
    | none => rfl
    | some k => cases k <;> rfl

theorem panicsBefore_mono (ks : List Kind) {i j : Nat} (h : i ≤ j) : panicsBefore ks i ≤ panicsBefore ks j :=
  (List.take_sublist_take_left h).count_le _

theorem panicsBefore_append (ks : List Kind) (k : Kind) {i : Nat} (h : i ≤ ks.length) :
    panicsBefore (ks ++ [k]) i = panicsBefore ks i := by
  unfold panicsBefore
  rw [List.take_append_of_le_length h]

theorem respOf_eq_panic (k : Kind) : (respOf k == Resp.panicAsError) = (k == Kind.panic) := by
  cases k <;> rfl

theorem resp_panic_count {ks : List Kind} (resp : List (Nat × Resp))
    (h : ∀ p ∈ resp, ∃ k, ks[p.1]? = some k ∧ p.2 = respOf k) :
    (resp.map (·.1)).countP (isPanicId ks) = resp.countP (fun p => p.2 == Resp.panicAsError) := by
  induction resp with
  | nil => rfl
  | cons p rest ih =>
    obtain ⟨⟨k, hk, hr⟩, hrest⟩ := List.forall_mem_cons.mp h
    have : isPanicId ks p.1 = (p.2 == Resp.panicAsError) := by
      unfold isPanicId
      rw [hk, hr, respOf_eq_panic]
      cases k <;> rfl
    rw [List.map_cons, List.countP_cons, List.countP_cons, ih hrest, this]

/-- Invariant of the shipped loop: the queue holds the youngest jobs in submission order, every dead worker is
    accounted for by one panic answer, and every job that was ever taken had fewer than `n` panicking jobs before it. -/
structure InvS (n : Nat) (ks : List Kind) (s : State) : Prop where
  base : Inv n shipped ks s
  fifo : ∃ t, t + s.queue.length = s.next ∧ s.queue.map (·.id) = List.range' t s.queue.length ∧
    ∀ i, i < t → panicsBefore ks i < n
  dead_eq : s.dead = s.resp.countP (fun p => p.2 == Resp.panicAsError)

theorem panics_taken {n ks s} (h : InvS n ks s) {t : Nat} (ht : t + s.queue.length = s.next)
    (hq : s.queue.map (·.id) = List.range' t s.queue.length) :
    panicsBefore ks t = s.dead + (s.busy.map (·.id)).countP (isPanicId ks) := by
  have hp := taken_perm h.base ht hq
  rw [← countP_range_isPanic, ← hp.countP_eq, List.countP_append, resp_panic_count s.resp h.base.respKind, h.dead_eq]

theorem invS_submit {n ks s} (k : Kind) (h : InvS n ks s) : InvS n (ks ++ [k]) (submit s k) := by
  obtain ⟨t, ht, hq, hh⟩ := h.fifo
  have hqs : (submit s k).queue = s.queue ++ [⟨s.next, k⟩] := rfl
  have hns : (submit s k).next = s.next + 1 := rfl
  refine ⟨inv_submit k h.base, ⟨t, ?_, ?_, ?_⟩, h.dead_eq⟩
  · rw [hqs, hns, List.length_append, List.length_singleton, ← Nat.add_assoc, ht]
  · rw [hqs, List.length_append, List.length_singleton, List.range'_1_concat, List.map_append, hq, ht]
    rfl
  · intro i hi
    have hle : i ≤ ks.length :=
      Nat.le_of_lt (Nat.lt_of_lt_of_le hi (h.base.next_eq ▸ ht ▸ Nat.le_add_right t _))
    rw [panicsBefore_append ks k hle]; exact hh i hi

theorem invS_take {n ks s s'} (h : InvS n ks s) (htk : take s = some s') : InvS n ks s' := by
  obtain ⟨t, ht, hq, hh⟩ := h.fifo
  have hpt := panics_taken h ht hq
  obtain ⟨j, q, hqq, hq', hb', hi', hd', hr', hn'⟩ := take_some htk
  rw [hqq, List.length_cons] at ht hq
  rw [List.map_cons, List.range'_succ] at hq
  refine ⟨inv_take h.base htk, ⟨t + 1, ?_, ?_, ?_⟩, ?_⟩
  · rw [hq', hn', Nat.add_right_comm]; exact ht
  · rw [hq']; exact (List.cons.inj hq).2
  · -- the job taken now is job `t`: the worker taking it is alive, so fewer than `n` have died or are dying
    intro i hi
    rcases Nat.lt_or_ge i t with hlt | hge
    · exact hh i hlt
    · have hit : i = t := Nat.le_antisymm (Nat.le_of_lt_succ hi) hge
      have hle : (s.busy.map (·.id)).countP (isPanicId ks) ≤ s.busy.length :=
        Nat.le_trans List.countP_le_length (Nat.le_of_eq (List.length_map _))
      rw [hit, hpt, ← h.base.workers, ← hi', Nat.add_assoc, Nat.add_comm s.dead]
      exact Nat.lt_of_le_of_lt (Nat.add_le_add_right hle _) (Nat.lt_add_of_pos_left (Nat.succ_pos _))
  · rw [hd', hr']; exact h.dead_eq

theorem invS_finish {n ks s s'} (i : Nat) (h : InvS n ks s) (hf : finish shipped s i = some s') : InvS n ks s' := by
  obtain ⟨pre, j, post, -, -, -, hr', hq', hn', hw⟩ := finish_some hf
  refine ⟨inv_finish i h.base hf, hq' ▸ hn' ▸ h.fifo, ?_⟩
  rw [hr', List.countP_append, List.countP_singleton, respOf_eq_panic]
  have := h.dead_eq
  rcases hw with ⟨⟨-, hk⟩, -, hd'⟩ | ⟨hk, -, hd'⟩
  · rw [hd', hk, this]; rfl
  · have hk : (j.kind == Kind.panic) = false := beq_eq_false_iff_ne.mpr fun e => hk ⟨rfl, e⟩
    rw [hd', hk, this]; rfl

theorem invS_reachable {n tr s} (hr : run shipped (init n) tr = some s) : InvS n (submitted tr) s := by
  have hinit : InvS n [] (init n) :=
    ⟨inv_init n shipped, ⟨0, rfl, rfl, fun i h => absurd h (Nat.not_lt_zero i)⟩, rfl⟩
  have := run_invariant (P := InvS n) invS_submit invS_take invS_finish tr hinit hr
  rwa [List.nil_append] at this

/-! ### a schedule that costs the shipped loop all its workers (witness of `C16.panicKillsWorker_witness`) -/

def panicRound : List Step := [.submit .panic, .take, .finish 0]

def killAll (n : Nat) : List Step := (List.replicate n panicRound).flatten

theorem killAll_run (m d nx : Nat) (resp : List (Nat × Resp)) :
    ∃ resp', run shipped ⟨m, d, [], [], resp, nx⟩ (killAll m) = some ⟨0, d + m, [], [], resp', nx + m⟩ := by
  induction m generalizing d nx resp with
  | zero => exact ⟨resp, rfl⟩
  | succ m ih =>
    obtain ⟨resp', h⟩ := ih (d + 1) (nx + 1) (resp ++ [(nx, Resp.panicAsError)])
    have hround : run shipped ⟨m + 1, d, [], [], resp, nx⟩ panicRound
        = some ⟨m, d + 1, [], [], resp ++ [(nx, Resp.panicAsError)], nx + 1⟩ := rfl
    rw [Nat.add_right_comm d, Nat.add_right_comm nx] at h
    exact ⟨resp', run_append hround h⟩

end AxVerif.Pool
