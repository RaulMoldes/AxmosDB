/-
  Constraints (C07): the committed database of the abstract machine always satisfies every declared constraint;
  characterisation of the uniqueness check against a view.
-/
import AxVerif.Lemmas.DbHist
namespace AxVerif.Db
open AxVerif.Db

theorem spec_commitC_holds (α : Spec.State) (a : Spec.ATxn) (h : constraintsHold α.cat α.committed = true) :
    constraintsHold α.cat (α.commitC a).1.committed = true := by
  rcases spec_commitC_cases α a with ⟨_, e⟩ | ⟨e, hk⟩ <;> rw [e]
  · exact h
  · exact hk

theorem spec_step_holds (α : Spec.State) (op : Op) (h : constraintsHold α.cat α.committed = true) :
    constraintsHold (Spec.step α op).1.cat (Spec.step α op).1.committed = true := by
  rw [spec_step_cat]
  have hc : (Spec.step α op).1.committed = (Spec.stepCore α op).1.committed := rfl
  rcases (spec_step_shape α op _ rfl).2.1 with e | ⟨a, e⟩ <;> rw [hc, e]
  · exact h
  · exact spec_commitC_holds α a h

theorem spec_final_holds (ops : List Op) (α : Spec.State) (h : constraintsHold α.cat α.committed = true) :
    constraintsHold (Spec.final α ops).cat (Spec.final α ops).committed = true := by
  induction ops generalizing α with
  | nil => exact h
  | cons op ops ih => exact ih _ (spec_step_holds α op h)

theorem spec_final_cat (ops : List Op) (α : Spec.State) : (Spec.final α ops).cat = α.cat := by
  induction ops generalizing α with
  | nil => rfl
  | cons op ops ih => exact (ih _).trans (spec_step_cat α op)

theorem dupKey_iff (v : View) (t : String) (self : Option Rid) (K : List Nat) (vals : List Val) :
    dupKey v t self K vals = true ↔
      (.null ∉ keyOf K vals) ∧ ∃ x ∈ v, x.table = t ∧ some x.rid ≠ self ∧ keyOf K x.vals = keyOf K vals := by
  unfold dupKey
  simp only [Bool.and_eq_true, Bool.not_eq_eq_eq_not, Bool.not_true, List.contains_eq_mem, decide_eq_false_iff_not,
    List.any_eq_true, beq_iff_eq, bne_iff_ne, ne_eq]
  constructor
  · rintro ⟨h1, x, hx, ⟨h2, h3⟩, h4⟩
    exact ⟨h1, x, hx, h2, h3, h4⟩
  · rintro ⟨h1, x, hx, h2, h3, h4⟩
    exact ⟨h1, x, hx, ⟨h2, h3⟩, h4⟩

end AxVerif.Db
