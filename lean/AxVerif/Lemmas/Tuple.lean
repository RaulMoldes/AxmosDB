/- Helper lemmas for the tuple model (C18): umbrella module; the five files form a chain that ends in TupleOps. -/
import AxVerif.Lemmas.TupleOps
