/-
  Lemmas for C11: paths through `next` links, the invariant tying the pointer-level allocator (`Pages.Alloc`) to the abstract
  FIFO allocator (`Pages.Abs`), and the list facts behind `checkOwnership_sound`. Core Lean only.
-/
import AxVerif.Model.Pages
import AxVerif.Lemmas.BTree
namespace AxVerif.Pages

def Seg (nx : Nat → Nat) : Nat → List Nat → Nat → Prop
  | a, [], b => a = b
  | a, x :: xs, b => a = x ∧ x ≠ 0 ∧ Seg nx (nx x) xs b

theorem seg_append {nx : Nat → Nat} : ∀ {l1 l2 : List Nat} {a c : Nat},
    Seg nx a (l1 ++ l2) c ↔ ∃ b, Seg nx a l1 b ∧ Seg nx b l2 c := by
  intro l1
  induction l1 with
  | nil => intro l2 a c; simp [Seg]
  | cons x xs ih =>
    intro l2 a c
    simp only [List.cons_append, Seg, ih]
    constructor
    · rintro ⟨h1, h2, b, h3, h4⟩; exact ⟨b, ⟨h1, h2, h3⟩, h4⟩
    · rintro ⟨b, ⟨h1, h2, h3⟩, h4⟩; exact ⟨h1, h2, b, h3, h4⟩

theorem setF_self {α : Type} (f : Nat → α) (i : Nat) (v : α) : setF f i v i = v := if_pos rfl

theorem setF_ne {α : Type} (f : Nat → α) {i j : Nat} (v : α) (h : j ≠ i) : setF f i v j = f j := if_neg h

theorem seg_setF {nx : Nat → Nat} {x v : Nat} {l : List Nat} {a b : Nat} (hx : x ∉ l) :
    Seg (setF nx x v) a l b ↔ Seg nx a l b := by
  fun_induction Seg nx a l b with
  | case1 a b => exact Iff.rfl
  | case2 a y ys b ih =>
    have hy : y ≠ x := fun h => hx (h ▸ List.mem_cons_self ..)
    rw [Seg, setF_ne _ _ hy, ih fun h => hx (List.mem_cons_of_mem _ h)]

theorem seg_mem_ne_zero {nx : Nat → Nat} : ∀ {l : List Nat} {a b : Nat}, Seg nx a l b → ∀ x ∈ l, x ≠ 0 := by
  intro l
  induction l with
  | nil => intro a b _ x hx; cases hx
  | cons y ys ih =>
    intro a b h x hx
    cases hx with
    | head => exact h.2.1
    | tail _ hx => exact ih h.2.2 x hx

theorem seg_head {nx : Nat → Nat} {a b : Nat} : ∀ {l : List Nat}, Seg nx a l b → a = l.headD b
  | [], h => h
  | _ :: _, h => h.1

theorem walk_of_seg {nx : Nat → Nat} {l : List Nat} {a fuel : Nat} (h : Seg nx a l 0) (hf : l.length < fuel) :
    walk nx fuel a = l := by
  fun_induction walk nx fuel a generalizing l with
  | case1 a => exact absurd hf (Nat.not_lt_zero _)
  | case2 fuel =>
    cases l with
    | nil => rfl
    | cons x xs => exact absurd h.1.symm h.2.1
  | case3 fuel p hp ih =>
    cases l with
    | nil => exact absurd h hp
    | cons x xs =>
      obtain ⟨rfl, -, hrest⟩ := h
      rw [ih hrest (Nat.lt_of_succ_lt_succ hf)]

theorem lastD_append_singleton (l : List Nat) (x : Nat) : FileDump.lastD (l ++ [x]) = x := by
  simp [FileDump.lastD]

theorem lastD_cons_cons (x y : Nat) (l : List Nat) : FileDump.lastD (x :: y :: l) = FileDump.lastD (y :: l) := by
  simp [FileDump.lastD, List.getLast?_cons_cons]

theorem lastD_mem {l : List Nat} (h : l ≠ []) : FileDump.lastD l ∈ l := by
  unfold FileDump.lastD
  cases hl : l.getLast? with
  | none => exact absurd (List.getLast?_eq_none_iff.mp hl) h
  | some x => simpa using List.mem_of_getLast? hl

theorem eq_append_lastD {l : List Nat} (h : l ≠ []) : ∃ pre, l = pre ++ [FileDump.lastD l] := by
  refine ⟨l.dropLast, ?_⟩
  unfold FileDump.lastD
  rw [List.getLast?_eq_some_getLast h]
  simp [List.dropLast_concat_getLast h]

theorem lastD_append_of_ne_nil (l₁ : List Nat) {l₂ : List Nat} (h : l₂ ≠ []) :
    FileDump.lastD (l₁ ++ l₂) = FileDump.lastD l₂ := by
  obtain ⟨pre, hpre⟩ := eq_append_lastD h
  rw [hpre, ← List.append_assoc, lastD_append_singleton, lastD_append_singleton]

structure Inv (s : Alloc) (a : Abs) : Prop where
  total : s.total = a.total
  pos : 1 ≤ a.total
  path : Seg s.next s.first a.free 0
  last : s.last = FileDump.lastD a.free
  freeNodup : a.free.Nodup
  usedNodup : a.used.Nodup
  disj : ∀ p ∈ a.free, p ∉ a.used
  cover : ∀ p, (0 < p ∧ p < a.total) ↔ (p ∈ a.used ∨ p ∈ a.free)
  count : a.free.length + a.used.length + 1 = a.total
  /-- `alloc` and `dealloc` read the head and the tail of the list as overflow pages and fail on a cached B-tree frame -/
  kind : ∀ p ∈ a.free, s.ovf p ≠ some false

theorem setF_true_kind {f : Nat → Option Bool} {q : Nat} (i : Nat) (h : q ≠ i → f q ≠ some false) :
    setF f i (some true) q ≠ some false := by
  unfold setF
  split
  · nofun
  · next hq => exact h hq

theorem seg_set_last {nx : Nat → Nat} {pre : List Nat} {a x b : Nat} (v : Nat) (h : Seg nx a (pre ++ [x]) b)
    (hx : x ∉ pre) : Seg (setF nx x v) a (pre ++ [x]) v := by
  obtain ⟨c, h1, hc, hx0, _⟩ := seg_append.mp h
  exact seg_append.mpr ⟨c, (seg_setF hx).mpr h1, hc, hx0, setF_self ..⟩

theorem seg_snoc {nx : Nat → Nat} {l : List Nat} {a p : Nat} (h : Seg nx a l p) (hp : p ≠ 0) (hl : p ∉ l) :
    Seg (setF nx p 0) a (l ++ [p]) 0 :=
  seg_append.mpr ⟨p, (seg_setF hl).mpr h, rfl, hp, setF_self ..⟩

/-- The list facts of `Inv` in one: the pages handed out and the free pages together are 1 … total-1 rearranged.
    `Inv` keeps them as separate fields because the theorems of C11 quote them one at a time; every operation is shown to
    keep them through this form (`inv_of_perm`). -/
theorem Inv.perm {s : Alloc} {a : Abs} (h : Inv s a) : (a.used ++ a.free).Perm (List.range' 1 (a.total - 1)) := by
  refine (List.perm_ext_iff_of_nodup ?_ (List.nodup_range' (step := 1))).mpr fun p => ?_
  · exact List.nodup_append.mpr ⟨h.usedNodup, h.freeNodup, fun x hx y hy hxy => h.disj y hy (hxy ▸ hx)⟩
  · rw [List.mem_append, ← h.cover p, List.mem_range'_1, Nat.add_sub_cancel' h.pos]
    exact Iff.rfl

theorem inv_of_perm {s : Alloc} {a : Abs} (htotal : s.total = a.total) (hpos : 1 ≤ a.total)
    (hperm : (a.used ++ a.free).Perm (List.range' 1 (a.total - 1))) (hpath : Seg s.next s.first a.free 0)
    (hlast : s.last = FileDump.lastD a.free) (hkind : ∀ p ∈ a.free, s.ovf p ≠ some false) : Inv s a := by
  obtain ⟨hu, hf, hd⟩ := List.nodup_append.mp (hperm.nodup_iff.mpr (List.nodup_range' (step := 1)))
  refine ⟨htotal, hpos, hpath, hlast, hf, hu, fun p hp hpu => hd p hpu p hp rfl, fun p => ?_, ?_, hkind⟩
  · rw [← List.mem_append, hperm.mem_iff, List.mem_range'_1, Nat.add_sub_cancel' hpos]
    exact Iff.rfl
  · have := hperm.length_eq
    rw [List.length_append, List.length_range'] at this
    rw [Nat.add_comm a.free.length, this]
    exact Nat.sub_add_cancel hpos

theorem inv_init : Inv Alloc.init Abs.init :=
  inv_of_perm rfl (Nat.le_refl 1) (List.Perm.refl _) rfl rfl nofun

theorem Inv.first_eq {s : Alloc} {a : Abs} (h : Inv s a) : s.first = a.free.headD 0 := seg_head h.path

theorem Inv.freeList_eq {s : Alloc} {a : Abs} (h : Inv s a) : freeList s = a.free := by
  unfold freeList
  apply walk_of_seg h.path
  have := h.count; have := h.total; omega

theorem Inv.free_pos {s : Alloc} {a : Abs} (h : Inv s a) : ∀ p ∈ a.free, 0 < p ∧ p < a.total :=
  fun p hp => (h.cover p).mpr (Or.inr hp)

theorem Abs.alloc_cons {a : Abs} {x : Nat} {xs : List Nat} (hf : a.free = x :: xs) :
    a.alloc = ({ a with free := xs, used := x :: a.used }, x) := by
  rw [Abs.alloc, hf]

theorem alloc_grow {s : Alloc} (k : Bool) (h : s.first = 0) :
    alloc s k = ({ s with total := s.total + 1, next := setF s.next s.total 0, ovf := setF s.ovf s.total (some k) },
      .ok s.total) := by
  rw [alloc, if_pos h]

theorem alloc_pop {s : Alloc} (k : Bool) (h : s.first ≠ 0) (hk : s.ovf s.first ≠ some false) :
    alloc s k = ({ s with first := s.next s.first, last := (if s.last = s.first then 0 else s.last),
                          next := setF s.next s.first 0, ovf := setF s.ovf s.first (some k) }, .ok s.first) := by
  rw [alloc, if_neg h, if_neg hk]

theorem dealloc_first {s : Alloc} {p : Nat} (k : Bool) (hp : p ≠ 0) (hf : s.first = 0) (hl : s.last = 0) :
    dealloc {} s p k =
      ({ s with first := p, last := p, next := setF s.next p 0, ovf := setF s.ovf p (some true) }, .ok ()) := by
  simp [dealloc, hp, hf, hl]

theorem Inv.dealloc_tail {s : Alloc} {a : Abs} (h : Inv s a) (hne : a.free ≠ []) {p : Nat} (hp : p ≠ 0) (k : Bool) :
    dealloc {} s p k =
      ({ s with last := p, next := setF (setF s.next s.last p) p 0,
                ovf := setF (setF s.ovf s.last (some true)) p (some true) }, .ok ()) := by
  have hfirst : s.first ≠ 0 := by
    have hpath := h.path
    cases hfr : a.free with
    | nil => exact absurd hfr hne
    | cons x xs => rw [hfr] at hpath; exact hpath.1 ▸ hpath.2.1
  have hmem : s.last ∈ a.free := h.last ▸ lastD_mem hne
  simp [dealloc, hp, hfirst, seg_mem_ne_zero h.path _ hmem, h.kind _ hmem]

/-- `dealloc` of a page that is free already, `a.free = pre ++ p :: post`: the recorded tail (which is `p` or lies in `post`)
    is made to point at `p` and the link of `p` is cleared, so the free list found in the file is `pre ++ [p]` afterwards -/
theorem Inv.double_free {s : Alloc} {a : Abs} (h : Inv s a) {p : Nat} {pre post : List Nat}
    (hfree : a.free = pre ++ p :: post) (k : Bool) :
    ∃ nx ov, dealloc {} s p k = ({ s with last := p, next := nx, ovf := ov }, .ok ()) ∧
      Seg nx s.first (pre ++ [p]) 0 ∧ walk nx s.total s.first = pre ++ [p] ∧ ∀ q ∈ a.free, ov q ≠ some false := by
  have hne : a.free ≠ [] := hfree ▸ List.append_ne_nil_of_right_ne_nil _ (List.cons_ne_nil _ _)
  have hpm : p ∈ a.free := hfree ▸ List.mem_append_right _ (List.mem_cons_self ..)
  obtain ⟨-, -, hcross⟩ := List.nodup_append.mp (hfree ▸ h.freeNodup)
  have hlast : s.last ∈ p :: post := by
    rw [h.last, hfree, lastD_append_of_ne_nil _ (List.cons_ne_nil _ _)]
    exact lastD_mem (List.cons_ne_nil _ _)
  obtain ⟨b, hs1, hb, hp0, -⟩ := seg_append.mp (hfree ▸ h.path)
  have hseg : Seg (setF (setF s.next s.last p) p 0) s.first (pre ++ [p]) 0 :=
    seg_snoc ((seg_setF fun hm => hcross _ hm _ hlast rfl).mpr (hb ▸ hs1)) hp0
      fun hm => hcross _ hm _ (List.mem_cons_self ..) rfl
  refine ⟨_, _, h.dealloc_tail hne hp0 k, hseg, walk_of_seg hseg ?_,
    fun q hq => setF_true_kind p fun _ => setF_true_kind _ fun _ => h.kind q hq⟩
  have := h.count
  rw [hfree, List.length_append, List.length_cons, ← h.total] at this
  rw [List.length_append, List.length_singleton]
  omega

theorem alloc_inv {s : Alloc} {a : Abs} (h : Inv s a) (k : Bool) :
    Inv (alloc s k).1 a.alloc.1 ∧ (alloc s k).2 = .ok a.alloc.2 := by
  have hpath := h.path
  have hperm := h.perm
  have hlast := h.last
  unfold Abs.alloc
  cases hf : a.free with
  | nil =>
    rw [hf] at hpath hperm hlast
    rw [alloc_grow k hpath]
    refine ⟨inv_of_perm (congrArg (· + 1) h.total) (Nat.le_succ_of_le h.pos) ?_ hpath hlast nofun,
      congrArg _ h.total⟩
    -- the new page `total` comes after 1 … total-1
    show (a.total :: a.used ++ []).Perm (List.range' 1 a.total)
    have hr := List.range'_1_concat (s := 1) (n := a.total - 1)
    rw [Nat.sub_add_cancel h.pos, Nat.add_sub_cancel' h.pos] at hr
    rw [hr]
    exact (hperm.cons _).trans (List.perm_append_singleton ..).symm
  | cons x xs =>
    rw [hf] at hpath hperm hlast
    obtain ⟨hfx, hx0, hrest⟩ := hpath
    obtain ⟨hxxs, -⟩ := List.nodup_cons.mp (hf ▸ h.freeNodup)
    have hkind : ∀ q ∈ x :: xs, s.ovf q ≠ some false := hf ▸ h.kind
    rw [alloc_pop k (hfx ▸ hx0) (hfx ▸ hkind x (List.mem_cons_self ..)), hfx]
    refine ⟨inv_of_perm h.total h.pos (List.perm_middle.symm.trans hperm) ((seg_setF hxxs).mpr hrest) ?_ ?_, rfl⟩
    · -- the recorded tail is the head only if the head was the whole list
      show (if s.last = x then 0 else s.last) = FileDump.lastD xs
      cases xs with
      | nil => exact if_pos hlast
      | cons y ys =>
        rw [lastD_cons_cons] at hlast
        have hmem : s.last ∈ y :: ys := hlast ▸ lastD_mem (List.cons_ne_nil y ys)
        rw [if_neg fun (he : s.last = x) => hxxs (he ▸ hmem), hlast]
    · intro q hq
      show setF s.ovf x (some k) q ≠ some false
      rw [setF_ne _ _ fun (he : q = x) => hxxs (he ▸ hq)]
      exact hkind q (List.mem_cons_of_mem _ hq)

theorem dealloc_inv {s : Alloc} {a : Abs} (h : Inv s a) (p : Nat) (k : Bool) (hp : p ∈ a.used) :
    Inv (dealloc {} s p k).1 (a.dealloc p) ∧ (dealloc {} s p k).2 = .ok () := by
  have hp0 : p ≠ 0 := Nat.pos_iff_ne_zero.mp ((h.cover p).mpr (Or.inl hp)).1
  have hpf : p ∉ a.free := fun hm => h.disj p hm hp
  have hperm : ((a.dealloc p).used ++ (a.dealloc p).free).Perm (List.range' 1 (a.total - 1)) := by
    refine List.Perm.trans ?_ h.perm
    show (a.used.erase p ++ (a.free ++ [p])).Perm (a.used ++ a.free)
    rw [← List.append_assoc]
    exact (List.perm_append_singleton ..).trans ((List.perm_cons_erase hp).symm.append_right _)
  have hold : ∀ q ∈ a.free ++ [p], q ≠ p → q ∈ a.free := fun q hq hqp =>
    (List.mem_append.mp hq).resolve_right fun hq' => hqp (List.mem_singleton.mp hq')
  have hpath := h.path
  by_cases hf : a.free = []
  · have hfirst : s.first = 0 := by rw [h.first_eq, hf]; rfl
    rw [dealloc_first k hp0 hfirst (by rw [h.last, hf]; rfl)]
    rw [hf] at hpath
    refine ⟨inv_of_perm h.total h.pos hperm ?_ (lastD_append_singleton ..).symm ?_, rfl⟩
    · show Seg (setF s.next p 0) p (a.free ++ [p]) 0
      rw [hf]
      exact seg_snoc (l := []) rfl hp0 List.not_mem_nil
    · exact fun q hq => setF_true_kind p fun hqp => h.kind q (hold q hq hqp)
  · obtain ⟨pre, hpre⟩ := eq_append_lastD hf
    rw [← h.last] at hpre
    have hlpre : s.last ∉ pre := fun hm =>
      (List.nodup_append.mp (hpre ▸ h.freeNodup)).2.2 _ hm _ (List.mem_singleton.mpr rfl) rfl
    rw [h.dealloc_tail hf hp0 k]
    refine ⟨inv_of_perm h.total h.pos hperm ?_ (lastD_append_singleton ..).symm ?_, rfl⟩
    · -- afterwards the old tail points at `p`, and `p` ends the list
      show Seg (setF (setF s.next s.last p) p 0) s.first (a.free ++ [p]) 0
      refine seg_snoc ?_ hp0 hpf
      rw [hpre] at hpath ⊢
      exact seg_set_last p hpath hlpre
    · exact fun q hq => setF_true_kind p fun hqp => setF_true_kind _ fun _ => h.kind q (hold q hq hqp)

theorem link_inv {s : Alloc} {a : Abs} (h : Inv s a) (p q : Nat) (hp : p ∈ a.used) : Inv (link s p q).1 a := by
  have hpf : p ∉ a.free := fun hm => h.disj p hm hp
  unfold link
  split
  · exact h
  · split
    · exact h
    · exact { h with path := (seg_setF hpf).mpr h.path, kind := fun r hr => setF_true_kind p fun _ => h.kind r hr }

theorem flush_inv {s : Alloc} {a : Abs} (h : Inv s a) : Inv (flush s) a :=
  { h with kind := fun _ _ => nofun }

/-- what the specification says a step answers (`none`: not specified — `link` may be refused on a B-tree frame) -/
def Abs.out (a : Abs) : Op → Option Out
  | .alloc _ => some (.page a.alloc.2)
  | .dealloc _ _ => some .ok
  | .link _ _ => none
  | .flush => some .ok

theorem step_inv {s : Alloc} {a a' : Abs} (h : Inv s a) (op : Op) (hs : a.step op = some a') :
    Inv (step {} s op).1 a' ∧ ∀ o, a.out op = some o → (step {} s op).2 = o := by
  cases op with
  | alloc k =>
    cases hs
    obtain ⟨hi, ho⟩ := alloc_inv h k
    have e : alloc s k = ((alloc s k).1, .ok a.alloc.2) := Prod.ext rfl ho
    rw [step, e]
    exact ⟨hi, fun o ho => Option.some.inj ho⟩
  | dealloc p k =>
    by_cases hp : p ∈ a.used
    · rw [Abs.step, if_pos hp] at hs
      cases hs
      obtain ⟨hi, ho⟩ := dealloc_inv h p k hp
      have e : dealloc {} s p k = ((dealloc {} s p k).1, .ok ()) := Prod.ext rfl ho
      rw [step, e]
      exact ⟨hi, fun o ho => Option.some.inj ho⟩
    · rw [Abs.step, if_neg hp] at hs
      cases hs
  | link p q =>
    by_cases hp : p ∈ a.used
    · rw [Abs.step, if_pos hp] at hs
      cases hs
      refine ⟨?_, nofun⟩
      have : (step {} s (.link p q)).1 = (link s p q).1 := by
        rw [step]
        split <;> next e => rw [e]
      rw [this]
      exact link_inv h p q hp
    · rw [Abs.step, if_neg hp] at hs
      cases hs
  | flush =>
    cases hs
    exact ⟨flush_inv h, fun o ho => Option.some.inj ho⟩

theorem run_inv : ∀ (ops : List Op) {s : Alloc} {a a' : Abs}, Inv s a → a.run ops = some a' → Inv (run {} s ops) a' := by
  intro ops
  induction ops with
  | nil => intro s a a' h hr; simp only [Abs.run, Option.some.injEq] at hr; subst hr; exact h
  | cons op ops ih =>
    intro s a a' h hr
    simp only [Abs.run] at hr
    cases hst : a.step op with
    | none => rw [hst] at hr; cases hr
    | some a1 =>
      rw [hst] at hr
      exact ih (step_inv h op hst).1 hr

open AxVerif.BTree hiding Op Res
open FileDump

def LinkPath (link : Nat → Option Nat) : Nat → List Nat → Prop
  | a, [] => a = 0
  | a, x :: xs => a = x ∧ x ≠ 0 ∧ ∃ n, link x = some n ∧ LinkPath link n xs

theorem walkFree_path {link : Nat → Option Nat} {fuel a : Nat} {l : List Nat} (h : walkFree link fuel a = some l) :
    LinkPath link a l := by
  fun_induction walkFree link fuel a generalizing l with
  | case1 => cases h; rfl
  | case2 a ha => cases h
  | case3 fuel => cases h; rfl
  | case4 fuel a ha hlink => cases h
  | case5 fuel a ha n hn l' hl' ih => cases h; exact ⟨rfl, ha, n, hn, ih hl'⟩
  | case6 fuel a ha n hn hnone ih => cases h

theorem chainLinked_path {link : Nat → Option Nat} {c : List Nat} (h : chainLinked link c = true) (hz : ∀ x ∈ c, x ≠ 0) :
    LinkPath link (c.headD 0) c := by
  fun_induction chainLinked link c with
  | case1 => rfl
  | case2 x => exact ⟨rfl, hz x (List.mem_singleton.mpr rfl), 0, beq_iff_eq.mp h, rfl⟩
  | case3 x y rest ih =>
    rw [Bool.and_eq_true, beq_iff_eq] at h
    obtain ⟨hx, hz'⟩ := List.forall_mem_cons.mp hz
    exact ⟨rfl, hx, y, h.1, ih h.2 hz'⟩

theorem linkPath_last_none {link : Nat → Option Nat} {l : List Nat} {a : Nat} (h : LinkPath link a l) (hne : l ≠ []) :
    link (lastD l) = some 0 := by
  fun_induction LinkPath link a l with
  | case1 a => exact absurd rfl hne
  | case2 a x xs ih =>
    obtain ⟨-, -, n, hn, hrest⟩ := h
    cases xs with
    | nil => cases hrest; exact hn
    | cons y ys => rw [lastD_cons_cons]; exact ih n hrest (List.cons_ne_nil _ _)

def AllRel {α β : Type} (R : α → β → Prop) : List α → List β → Prop
  | [], [] => True
  | x :: xs, y :: ys => R x y ∧ AllRel R xs ys
  | _, _ => False

theorem allSome_allRel {α β : Type} (g : α → Option β) : ∀ {l : List α} {r : List β},
    FileDump.allSome (l.map g) = some r → AllRel (fun x y => g x = some y) l r := by
  intro l
  induction l with
  | nil => intro r h; simp only [List.map_nil, FileDump.allSome, Option.some.injEq] at h; subst h; trivial
  | cons x xs ih =>
    intro r h
    simp only [List.map_cons] at h
    cases hg : g x with
    | none => rw [hg] at h; simp [FileDump.allSome] at h
    | some y =>
      rw [hg] at h
      simp only [FileDump.allSome] at h
      split at h
      · next r' hr' =>
        cases h
        exact ⟨hg, ih hr'⟩
      · cases h

theorem AllRel.length_eq {α β : Type} {R : α → β → Prop} {l : List α} {r : List β} (h : AllRel R l r) : l.length = r.length := by
  fun_induction AllRel R l r with
  | case1 => rfl
  | case2 x xs y ys ih => exact congrArg (· + 1) (ih h.2)
  | case3 l r h1 h2 => exact h.elim

theorem AllRel.get {α β : Type} {R : α → β → Prop} {l : List α} {r : List β} (h : AllRel R l r) (i : Nat) (hi : i < l.length)
    (hj : i < r.length) : R l[i] r[i] := by
  fun_induction AllRel R l r generalizing i with
  | case1 => exact absurd hi (Nat.not_lt_zero _)
  | case2 x xs y ys ih =>
    cases i with
    | zero => exact h.1
    | succ i => exact ih h.2 i (Nat.lt_of_succ_lt_succ hi) (Nat.lt_of_succ_lt_succ hj)
  | case3 l r h1 h2 => exact h.elim

theorem owners_of_sorted {total : Nat} {l : List Nat} (h : msort l.length l = List.range' 1 (total - 1)) :
    l.Nodup ∧ ∀ p, p ∈ l ↔ 0 < p ∧ p < total := by
  have hperm : l.Perm (List.range' 1 (total - 1)) := h ▸ (msort_perm _ _).symm
  refine ⟨hperm.nodup_iff.mpr (List.nodup_range' (step := 1)), fun p => ?_⟩
  rw [hperm.mem_iff, List.mem_range'_1]
  omega

theorem mem_unique_of_flatten_nodup {α : Type} {g : α → List Nat} {L : List α} (h : (L.map g).flatten.Nodup) :
    (∀ (i j : Nat) (hi : i < L.length) (hj : j < L.length) (p : Nat), p ∈ g L[i] → p ∈ g L[j] → i = j) ∧
      ∀ l ∈ L, (g l).Nodup := by
  obtain ⟨hnd, hpw⟩ := (List.pairwise_flatten (R := (· ≠ ·))).mp h
  refine ⟨?_, fun l hl => hnd _ (List.mem_map_of_mem hl)⟩
  intro i j hi hj p hpi hpj
  have hp := List.pairwise_iff_getElem.mp (List.pairwise_map.mp hpw)
  rcases Nat.lt_trichotomy i j with hlt | heq | hgt
  · exact absurd rfl (hp i j hi hj hlt p hpi p hpj)
  · exact heq
  · exact absurd rfl (hp j i hj hi hgt p hpj p hpi)

end AxVerif.Pages
