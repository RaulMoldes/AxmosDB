/-
  Helper lemmas for the value model (C19): VarInt codec, Blob comparator, serialization, casts.
  Core Lean only.
-/
import AxVerif.Model.Value
import AxVerif.Lemmas.Bytes
namespace AxVerif.Value
open AxVerif Std

namespace VarInt

theorem ofNat_toNat_lt (n : Nat) (h : n < 256) : (UInt8.ofNat n).toNat = n := by
  rw [UInt8.toNat_ofNat']; exact Nat.mod_eq_of_lt h

theorem encodeU_spec (fuel n : Nat) (rest : Bytes) (hf : 0 < fuel) (h : n < 128 ^ fuel) :
    scan fuel (encodeU fuel n ++ rest) = some (encodeU fuel n, rest) ∧ valueU (encodeU fuel n) = n := by
  fun_induction encodeU fuel n with
  | case1 => exact absurd hf (Nat.lt_irrefl 0)
  | case2 fuel n hn =>
    have hb := ofNat_toNat_lt n (by omega)
    simp only [List.cons_append, List.nil_append, scan, valueU, hb, if_pos hn]
    exact ⟨trivial, Nat.mod_eq_of_lt hn⟩
  | case3 fuel n hn ih =>
    have hf' : 0 < fuel := Nat.pos_of_ne_zero fun h0 => hn (by subst h0; exact h)
    have hb : (UInt8.ofNat (n % 128 + 128)).toNat = n % 128 + 128 := ofNat_toNat_lt _ (by omega)
    obtain ⟨ih1, ih2⟩ := ih hf' (Nat.div_lt_of_lt_mul (by rw [Nat.mul_comm]; exact h))
    rw [List.cons_append, scan, valueU, hb, if_neg (by omega), ih1, ih2]
    exact ⟨rfl, by omega⟩

theorem encodeU_length (fuel n : Nat) : (encodeU fuel n).length ≤ fuel := by
  fun_induction encodeU fuel n with
  | case1 => exact Nat.le_refl 0
  | case2 fuel n hn => exact Nat.succ_le_succ (Nat.zero_le fuel)
  | case3 fuel n hn ih => exact Nat.succ_le_succ ih

theorem encodeU_length_pos (fuel n : Nat) : 1 ≤ (encodeU (fuel + 1) n).length := by
  rw [encodeU]; split <;> simp

theorem sizeU_eq (fuel n : Nat) : sizeU fuel n = (encodeU fuel n).length := by
  fun_induction encodeU fuel n with
  | case1 => rfl
  | case2 fuel n hn => rw [sizeU, if_pos hn]; rfl
  | case3 fuel n hn ih => rw [sizeU, if_neg hn, ih, Nat.add_comm]; rfl

theorem scan_length {fuel : Nat} {bs p rest : Bytes} (h : scan fuel bs = some (p, rest)) :
    bs = p ++ rest ∧ 1 ≤ p.length ∧ p.length ≤ fuel := by
  fun_induction scan fuel bs generalizing p with
  | case1 | case2 => exact nomatch h
  | case3 fuel b bs hb => cases h; exact ⟨rfl, Nat.le_refl 1, Nat.succ_le_succ (Nat.zero_le fuel)⟩
  | case4 fuel b bs hb p' r' hs ih =>
    cases h
    obtain ⟨e, h1, h2⟩ := ih hs
    exact ⟨congrArg (b :: ·) e, Nat.le_succ_of_le h1, Nat.succ_le_succ h2⟩
  | case5 => exact nomatch h

theorem scan_none_of_all_cont (fuel : Nat) (bs : Bytes) (h : ∀ b ∈ bs.take fuel, 128 ≤ b.toNat) :
    scan fuel bs = none := by
  fun_induction scan fuel bs with
  | case1 | case2 | case5 => rfl
  | case3 fuel b bs hb => exact absurd (h b (List.mem_cons_self ..)) (Nat.not_le_of_lt hb)
  | case4 fuel b bs hb p r hs ih => exact nomatch hs.symm.trans (ih fun c hc => h c (List.mem_cons_of_mem b hc))
end VarInt

theorem ite_lt_gt_eq_then (x y : Nat) (k : Ordering) :
    (if x < y then Ordering.lt else if x > y then .gt else k) = (compare x y).then k := by
  rcases Nat.lt_trichotomy x y with h | h | h
  · rw [if_pos h, Nat.compare_eq_lt.mpr h]; rfl
  · rw [if_neg (by omega), if_neg (by omega), Nat.compare_eq_eq.mpr h]; rfl
  · rw [if_neg (by omega), if_pos h, Nat.compare_eq_gt.mpr h]; rfl

theorem compare_toNat (x y : UInt8) : compare x.toNat y.toNat = compare x y := by
  show compareOfLessAndEq x.toNat y.toNat = compareOfLessAndEq x y
  simp only [compareOfLessAndEq, UInt8.lt_iff_toNat_lt, UInt8.toNat_inj]

theorem compare_mul_add (P x y r s : Nat) (hr : r < P) (hs : s < P) :
    compare (x * P + r) (y * P + s) = (compare x y).then (compare r s) := by
  rcases Nat.lt_trichotomy x y with h | h | h
  · have := Nat.mul_le_mul_right P (Nat.succ_le_of_lt h)
    rw [Nat.succ_mul] at this
    rw [Nat.compare_eq_lt.mpr h, Nat.compare_eq_lt.mpr (by omega)]; rfl
  · subst h
    rw [Nat.compare_eq_eq.mpr rfl, Nat.compare_eq_ite_lt, Nat.compare_eq_ite_lt r]
    simp only [Nat.add_lt_add_iff_left]; rfl
  · have := Nat.mul_le_mul_right P (Nat.succ_le_of_lt h)
    rw [Nat.succ_mul] at this
    rw [Nat.compare_eq_gt.mpr h, Nat.compare_eq_gt.mpr (by omega)]; rfl

namespace Blob

theorem lex_eq_compare (a b : Bytes) : lex a b = compare a b := by
  induction a generalizing b with
  | nil => cases b <;> rfl
  | cons x xs ih =>
    cases b with
    | nil => rfl
    | cons y ys => rw [lex, ite_lt_gt_eq_then, ih, List.compare_cons_cons, compare_toNat]

theorem lex_eq : lex = compare := funext fun a => funext (lex_eq_compare a)

instance : TransCmp lex := lex_eq ▸ inferInstanceAs (TransOrd Bytes)
instance : LawfulEqCmp lex := lex_eq ▸ inferInstanceAs (LawfulEqOrd Bytes)

theorem beNat_lt (a : Bytes) : beNat a < 256 ^ a.length := by
  induction a with
  | nil => exact Nat.one_pos
  | cons x xs ih =>
    have h2 : x.toNat * 256 ^ xs.length ≤ 255 * 256 ^ xs.length := Nat.mul_le_mul_right _ (Nat.le_of_lt_succ x.toNat_lt)
    rw [beNat, List.length_cons, Nat.pow_succ]
    omega

theorem beNat_compare (a b : Bytes) (h : a.length = b.length) : compare (beNat a) (beNat b) = lex a b := by
  induction a generalizing b with
  | nil =>
    cases b with
    | nil => rfl
    | cons _ _ => exact absurd h (by simp)
  | cons x xs ih =>
    cases b with
    | nil => exact absurd h (by simp)
    | cons y ys =>
      have hl : xs.length = ys.length := Nat.succ.inj h
      rw [beNat, beNat, hl, compare_mul_add _ _ _ _ _ (hl ▸ beNat_lt xs) (beNat_lt ys), ih ys hl, lex,
        ite_lt_gt_eq_then]

theorem lex_append (a1 b1 a2 b2 : Bytes) (h : a1.length = b1.length) :
    lex (a1 ++ a2) (b1 ++ b2) = (lex a1 b1).then (lex a2 b2) := by
  induction a1 generalizing b1 with
  | nil =>
    cases b1 with
    | nil => rfl
    | cons _ _ => exact absurd h (by simp)
  | cons x xs ih =>
    cases b1 with
    | nil => exact absurd h (by simp)
    | cons y ys =>
      rw [List.cons_append, List.cons_append, lex, lex, ite_lt_gt_eq_then, ite_lt_gt_eq_then, ih ys (Nat.succ.inj h),
        Ordering.then_assoc]

theorem lex_split (m : Nat) (a b : Bytes) (ha : m ≤ a.length) (hb : m ≤ b.length) :
    lex a b = (lex (a.take m) (b.take m)).then (lex (a.drop m) (b.drop m)) := by
  rw [← lex_append _ _ _ _ (by rw [List.length_take, List.length_take, Nat.min_eq_left ha, Nat.min_eq_left hb]),
    List.take_append_drop, List.take_append_drop]

theorem cmpPrefix_eq_lex (n : Nat) (a b : Bytes) (ha : n ≤ a.length) (hb : n ≤ b.length) :
    cmpPrefix n a b = lex (a.take n) (b.take n) := by
  induction n generalizing a b with
  | zero => rfl
  | succ n ih =>
    match a, b, ha, hb with
    | x :: xs, y :: ys, ha, hb =>
      rw [cmpPrefix, List.take_succ_cons, List.take_succ_cons, lex, ih xs ys (Nat.le_of_succ_le_succ ha) (Nat.le_of_succ_le_succ hb)]

theorem cmpChunks_then_prefix (n r : Nat) (a b : Bytes) (ha : 8 * n + r ≤ a.length) (hb : 8 * n + r ≤ b.length) :
    (match cmpChunks n a b with
      | (.eq, a', b') => cmpPrefix r a' b'
      | (o, _, _) => o) = lex (a.take (8 * n + r)) (b.take (8 * n + r)) := by
  induction n generalizing a b with
  | zero => rw [Nat.mul_zero, Nat.zero_add]; exact cmpPrefix_eq_lex r a b (by omega) (by omega)
  | succ n ih =>
    have hl : (a.take 8).length = (b.take 8).length := by
      rw [List.length_take, List.length_take]; omega
    rw [show 8 * (n + 1) + r = 8 + (8 * n + r) by omega, List.take_add (l := a) (i := 8), List.take_add (l := b) (i := 8),
      lex_append _ _ _ _ hl, ← beNat_compare _ _ hl, cmpChunks]
    rcases Nat.lt_trichotomy (beNat (a.take 8)) (beNat (b.take 8)) with h | h | h
    · rw [if_pos h, Nat.compare_eq_lt.mpr h]; rfl
    · rw [if_neg (by omega), if_neg (by omega), Nat.compare_eq_eq.mpr h]
      exact ih (a.drop 8) (b.drop 8) (by rw [List.length_drop]; omega) (by rw [List.length_drop]; omega)
    · rw [if_neg (by omega), if_pos h, Nat.compare_eq_gt.mpr h]; rfl

theorem cmpCommon_eq_lex (m : Nat) (a b : Bytes) (ha : m ≤ a.length) (hb : m ≤ b.length) :
    cmpCommon m a b = lex (a.take m) (b.take m) := by
  unfold cmpCommon
  split
  · have := cmpChunks_then_prefix (m / 8) (m % 8) a b (by omega) (by omega)
    rwa [Nat.div_add_mod] at this
  · exact cmpPrefix_eq_lex m a b ha hb
theorem lex_of_nil (a b : Bytes) (h : a = [] ∨ b = []) : lex a b = compare a.length b.length := by
  cases a with
  | nil => cases b with
    | nil => rfl
    | cons _ _ => exact (Nat.compare_eq_lt.mpr (Nat.succ_pos _)).symm
  | cons _ _ => cases b with
    | nil => exact (Nat.compare_eq_gt.mpr (Nat.succ_pos _)).symm
    | cons _ _ => exact absurd h (by simp)

theorem lex_nil_left (b : Bytes) : lex [] b = compare 0 b.length := lex_of_nil [] b (Or.inl rfl)

theorem compare_sub (x y m : Nat) (hx : m ≤ x) (hy : m ≤ y) : compare (x - m) (y - m) = compare x y := by
  rcases Nat.lt_trichotomy x y with h | h | h
  · rw [Nat.compare_eq_lt.mpr h, Nat.compare_eq_lt.mpr (by omega)]
  · rw [Nat.compare_eq_eq.mpr h, Nat.compare_eq_eq.mpr (by omega)]
  · rw [Nat.compare_eq_gt.mpr h, Nat.compare_eq_gt.mpr (by omega)]

theorem cmp_eq_lex (a b : Bytes) : cmp a b = lex a b := by
  have ha : min a.length b.length ≤ a.length := Nat.min_le_left _ _
  have hb : min a.length b.length ≤ b.length := Nat.min_le_right _ _
  have hnil : a.drop (min a.length b.length) = [] ∨ b.drop (min a.length b.length) = [] := by
    rcases Nat.le_total a.length b.length with h | h
    · exact Or.inl (List.drop_eq_nil_of_le (by omega))
    · exact Or.inr (List.drop_eq_nil_of_le (by omega))
  rw [cmp, cmpCommon_eq_lex _ a b ha hb, lex_split _ a b ha hb, lex_of_nil _ _ hnil, List.length_drop, List.length_drop,
    compare_sub _ _ _ ha hb]
  cases lex (a.take (min a.length b.length)) (b.take (min a.length b.length)) <;> rfl

theorem decode_of_prefix (p tail : Bytes) (n : Nat) (hn : n < 9223372036854775808) (hp : p.length ≤ 10)
    (hdec : VarInt.decode (p ++ tail) = some ((n : Int), tail)) :
    decode {} (p ++ tail) =
      if tail.length < n then .error .eof else .ok (tail.take n, p.length + n, tail.drop n) := by
  have hu : asUsize (n : Int) = n := by unfold asUsize; omega
  unfold decode
  rw [hdec]
  simp only [hu, List.length_append, Nat.add_sub_cancel]
  rw [if_neg (by omega)]
  simp only [Nat.add_lt_add_iff_left]

end Blob
theorem alignUp_one (c : Nat) : alignUp c 1 = c := by simp [alignUp]

theorem twos_complement (H N : Nat) (hN : N = H + H) (i : Int) (h1 : -(H : Int) ≤ i) (h2 : i < H) :
    (if (i % (N : Int)).toNat < H then (((i % (N : Int)).toNat : Nat) : Int) else ((i % (N : Int)).toNat : Int) - N) = i := by
  subst hN
  by_cases h0 : 0 ≤ i
  · rw [Int.emod_eq_of_lt h0 (by omega), if_pos (by omega)]; omega
  · rw [← Int.add_emod_right, Int.emod_eq_of_lt (by omega) (by omega), if_neg (by omega)]; omega

theorem ofU32_toU32 (i : Int) (h : -2147483648 ≤ i ∧ i < 2147483648) : ofU32 (toU32 i) = i :=
  twos_complement 2147483648 4294967296 rfl i h.1 h.2
theorem ofU64_toU64 (i : Int) (h : VarInt.InI64 i) : ofU64 (toU64 i) = i :=
  twos_complement 9223372036854775808 18446744073709551616 rfl i h.1 h.2
theorem toU32_lt (i : Int) : toU32 i < 4294967296 := by unfold toU32; omega
theorem toU64_lt (i : Int) : toU64 i < 18446744073709551616 := by unfold toU64; omega

theorem drop_pre (pre bs rest : Bytes) : (pre ++ bs ++ rest).drop pre.length = bs ++ rest := by
  rw [List.append_assoc, List.drop_left']
  rfl


theorem le_alignUp_of_pos (c a : Nat) (ha : 0 < a) : c ≤ alignUp c a := by
  have h1 := Nat.div_add_mod (c + a - 1) a
  have h2 := Nat.mod_lt (c + a - 1) ha
  rw [Nat.mul_comm] at h1
  unfold alignUp
  omega

theorem Kind.align_pos (k : Kind) : 0 < k.align := by cases k <;> decide

theorem serialize_ok_of_ne_null (v : Value) (h : v ≠ .null) : ∃ bs, serialize v = .ok bs := by
  cases v <;> first | exact absurd rfl h | exact ⟨_, rfl⟩

theorem layoutKeys_cons (c : Nat) (v : Value) (vs : List Value) (bs : Bytes) (hs : serialize v = .ok bs) :
    layoutKeys c (v :: vs) =
      List.replicate (alignUp c v.kind.align - c) 0 ++ bs ++ layoutKeys (alignUp c v.kind.align + bs.length) vs := by
  simp only [layoutKeys, hs]


theorem ofInt_intVal (k : Kind) (i lo hi : Int) (hr : k.intRange = some (lo, hi)) (hlo : lo ≤ i) :
    (Value.ofInt k i).kind = k ∧ (Value.ofInt k i).intVal = some i := by
  cases k <;> cases hr <;> first | exact ⟨rfl, rfl⟩ | exact ⟨rfl, congrArg some (Int.toNat_of_nonneg hlo)⟩

theorem tryCast_int (D : Defects) (v : Value) (k : Kind) (i klo khi : Int)
    (hv : v.intVal = some i) (hk : k.intRange = some (klo, khi)) (hne : v.kind ≠ k) :
    tryCast D v k = if klo ≤ i ∧ i ≤ khi then .ok (.ofInt k i) else .error .badCast := by
  cases k <;> cases hk <;> cases v <;> cases hv <;> first | exact absurd rfl hne | rfl

theorem tryCast_ofInt (D : Defects) (ks k : Kind) (i lo hi klo khi : Int)
    (hr : ks.intRange = some (lo, hi)) (hk : k.intRange = some (klo, khi)) (hlo : lo ≤ i) (hhi : i ≤ hi) :
    tryCast D (.ofInt ks i) k = if klo ≤ i ∧ i ≤ khi then .ok (.ofInt k i) else .error .badCast := by
  have hv := ofInt_intVal ks i lo hi hr hlo
  by_cases hkk : ks = k
  · subst hkk
    cases hr.symm.trans hk
    rw [if_pos ⟨hlo, hhi⟩]; unfold tryCast; exact if_pos hv.1
  · exact tryCast_int D _ k i klo khi hv.2 hk (mt hv.1.symm.trans hkk)

theorem wf_ofInt (k : Kind) (i lo hi : Int) (hr : k.intRange = some (lo, hi)) (h1 : lo ≤ i) (h2 : i ≤ hi) :
    (Value.ofInt k i).Wf := by
  cases k <;> cases hr <;> simp only [Value.ofInt, Value.Wf, VarInt.InI64] <;> omega

theorem range_of_wf (v : Value) (i lo hi : Int) (hw : v.Wf) (hv : v.intVal = some i) (hr : v.kind.intRange = some (lo, hi)) :
    lo ≤ i ∧ i ≤ hi := by
  cases v <;> cases hv <;> cases hr <;> simp only [Value.Wf, VarInt.InI64] at hw <;> omega

theorem tryCast_double_int (D : Defects) (b : Nat) (k : Kind) (hk : k.isInteger = true) :
    tryCast D (.double b) k = match floatToInt D k b with
      | some w => .ok w
      | none => .error .badCast := by
  cases k <;> first | rfl | exact absurd hk (by decide)

end AxVerif.Value
