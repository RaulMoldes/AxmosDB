/- Helper lemmas for the index part of C06. -/
import AxVerif.Model.Index
import AxVerif.Lemmas.Sql
namespace AxVerif.Index
open AxVerif.Sql

instance (ix : Index) : Decidable (KeysDistinct ix) := by unfold KeysDistinct; exact inferInstance
instance (ix : Index) (rows : Rows) : Decidable (IndexConsistent ix rows) := by unfold IndexConsistent; exact inferInstance
instance (rows : Rows) : Decidable (RidsDistinct rows) := by unfold RidsDistinct; exact inferInstance

theorem nodup_concat {α} {l : List α} {x : α} (h : l.Nodup) (hx : x ∉ l) : (l ++ [x]).Nodup :=
  List.nodup_append.2 ⟨h, List.pairwise_singleton _ x, fun _ ha _ hb hab => hx (List.mem_singleton.1 hb ▸ hab ▸ ha)⟩

theorem insertEntry_keys (e : Entry) (es : List Entry) :
    (insertEntry e es).map (·.key) = if e.key ∈ es.map (·.key) then es.map (·.key) else es.map (·.key) ++ [e.key] := by
  fun_induction insertEntry e es
  case case1 => rfl
  case case2 x xs hk _ => simp [hk]
  case case3 x xs hk _ => simp [hk]
  case case4 x xs hk ih =>
    have hk' : ¬ e.key = x.key := fun h => hk h.symm
    simp only [List.map_cons, ih, List.mem_cons, hk', false_or]
    split <;> rfl

theorem insertEntry_keys_nodup (e : Entry) (es : List Entry) (h : (es.map (·.key)).Nodup) :
    ((insertEntry e es).map (·.key)).Nodup := by
  rw [insertEntry_keys]
  split
  · exact h
  · exact nodup_concat h ‹_›

def pairOf (e : Entry) : List Value × Nat := (e.key, e.rid)

theorem livePairs_eq (ix : Index) : livePairs ix = (ix.entries.filter (fun e => !e.dead)).map pairOf := rfl

theorem insertEntry_live (e : Entry) (es : List Entry) (hd : e.dead = false)
    (hfree : ∀ x ∈ es, x.key = e.key → x.dead = true) :
    (((insertEntry e es).filter (fun e => !e.dead)).map pairOf).Perm
      (pairOf e :: (es.filter (fun e => !e.dead)).map pairOf) := by
  fun_induction insertEntry e es
  case case1 => simp [hd]
  case case2 x xs _ hx => simp [hd, hx]
  case case3 x xs hk hx => exact absurd (hfree x List.mem_cons_self hk) hx
  case case4 x xs _ ih =>
    have ih' := ih fun y hy => hfree y (List.mem_cons_of_mem _ hy)
    simp only [List.filter_cons]
    cases x.dead
    · exact (ih'.cons _).trans (List.Perm.swap _ _ _)
    · exact ih'

theorem markDead_keys (key : List Value) (es : List Entry) : (markDead key es).map (·.key) = es.map (·.key) := by
  fun_induction markDead key es
  case case4 ih => rw [List.map_cons, ih, List.map_cons]
  all_goals rfl

theorem perm_cons_filter_ne {α β} [BEq β] [LawfulBEq β] (g : α → β) {l : List α} (hd : (l.map g).Nodup) {a : α} (hm : a ∈ l) :
    l.Perm (a :: l.filter (fun x => g x != g a)) := by
  induction l with
  | nil => cases hm
  | cons x xs ih =>
    have hd' : g x ∉ xs.map g ∧ (xs.map g).Nodup := List.nodup_cons.1 hd
    rcases List.mem_cons.1 hm with rfl | hm
    · have hne : ∀ r ∈ xs, (g r != g a) = true := fun r hr => bne_iff_ne.2 fun h => hd'.1 (List.mem_map.2 ⟨r, hr, h⟩)
      rw [List.filter_cons, if_neg (by simp), List.filter_eq_self.2 hne]
    · have hne : g x ≠ g a := fun h => hd'.1 (List.mem_map.2 ⟨a, hm, h.symm⟩)
      rw [List.filter_cons, if_pos (bne_iff_ne.2 hne)]
      exact ((ih hd'.2 hm).cons x).trans (List.Perm.swap _ _ _)

theorem markDead_live_filter (key : List Value) (es : List Entry) (hk : (es.map (·.key)).Nodup) :
    (markDead key es).filter (fun e => !e.dead)
      = (es.filter (fun e => !e.dead)).filter (fun e => e.key != key) := by
  fun_induction markDead key es
  case case1 => rfl
  case case4 x xs hx ih =>
    have := ih (List.nodup_cons.1 hk).2
    cases hd : x.dead <;> simp [hd, hx, this]
  all_goals
    -- the head carries the key (case2: dead already, case3: live): no other entry does
    rename_i x xs hx hd
    have hnot : ∀ y ∈ xs.filter (fun e => !e.dead), (y.key != key) = true := fun y hy =>
      bne_iff_ne.2 fun hyk => (List.nodup_cons.1 hk).1 (List.mem_map.2 ⟨y, (List.mem_filter.1 hy).1, hyk.trans hx.symm⟩)
    simp [hx, hd, List.filter_eq_self.2 hnot]

theorem markDead_live (key : List Value) (rid : Nat) (es : List Entry) (hk : (es.map (·.key)).Nodup)
    (hm : (key, rid) ∈ (es.filter (fun e => !e.dead)).map pairOf) :
    ((es.filter (fun e => !e.dead)).map pairOf).Perm
      ((key, rid) :: ((markDead key es).filter (fun e => !e.dead)).map pairOf) := by
  obtain ⟨e, he, hp⟩ := List.mem_map.1 hm
  have hkey : e.key = key := congrArg Prod.fst hp
  have hkL : ((es.filter (fun e => !e.dead)).map (·.key)).Nodup :=
    List.Nodup.sublist (List.Sublist.map _ List.filter_sublist) hk
  have := (perm_cons_filter_ne (·.key) hkL he).map pairOf
  rwa [List.map_cons, hp, hkey, ← markDead_live_filter key es hk] at this

theorem markDead_live_absent (key : List Value) (es : List Entry)
    (hm : ∀ x ∈ es, x.key = key → x.dead = true) :
    (markDead key es).filter (fun e => !e.dead) = es.filter (fun e => !e.dead) := by
  fun_induction markDead key es
  case case3 x xs hx hd => exact absurd (hm x List.mem_cons_self hx) hd
  case case4 x xs _ ih => rw [List.filter_cons, List.filter_cons, ih fun y hy => hm y (List.mem_cons_of_mem _ hy)]
  all_goals rfl

theorem rowPairs_append (cols : List Nat) (rows : Rows) (rid : Nat) (row : Row) :
    rowPairs cols (rows ++ [(rid, row)])
      = rowPairs cols rows ++ (if hasNull (keyOf cols row) then [] else [(keyOf cols row, rid)]) := by
  simp only [rowPairs, List.filter_append, List.map_append, List.filter_cons, List.filter_nil]
  cases hasNull (keyOf cols row) <;> simp

theorem rowPairs_cons (cols : List Nat) (rows : Rows) (rid : Nat) (row : Row) :
    rowPairs cols ((rid, row) :: rows)
      = (if hasNull (keyOf cols row) then [] else [(keyOf cols row, rid)]) ++ rowPairs cols rows := by
  simp only [rowPairs, List.filter_cons]
  cases hasNull (keyOf cols row) <;> simp

theorem rowPairs_perm (cols : List Nat) {r1 r2 : Rows} (h : r1.Perm r2) : (rowPairs cols r1).Perm (rowPairs cols r2) :=
  (h.filter _).map _

theorem filter_ne_self {rows : Rows} {rid : Nat} (h : ∀ r ∈ rows, r.1 ≠ rid) :
    rows.filter (fun r => r.1 != rid) = rows :=
  List.filter_eq_self.2 fun r hr => bne_iff_ne.2 (h r hr)

theorem map_replace_self {rows : Rows} {rid : Nat} (new : Row) (h : ∀ r ∈ rows, r.1 ≠ rid) :
    rows.map (fun r => if r.1 == rid then (rid, new) else r) = rows := by
  conv => rhs; rw [← List.map_id rows]
  exact List.map_congr_left fun r hr => if_neg (mt beq_iff_eq.1 (h r hr))

theorem fetch_none_ne {rows : Rows} {rid : Nat} (h : fetch rows rid = none) : ∀ r ∈ rows, r.1 ≠ rid := by
  simp only [fetch, Option.map_eq_none_iff, List.find?_eq_none] at h
  exact fun r hr => mt beq_iff_eq.2 (h r hr)

theorem fetch_some_mem (rows : Rows) (rid : Nat) (row : Row) (h : fetch rows rid = some row) : (rid, row) ∈ rows := by
  simp only [fetch, Option.map_eq_some_iff] at h
  obtain ⟨x, hx, rfl⟩ := h
  have hm := List.mem_of_find?_eq_some hx
  have hp := List.find?_some hx
  simp only [beq_iff_eq] at hp
  rw [← hp]
  exact hm

theorem fetch_of_mem (rows : Rows) (hd : RidsDistinct rows) (r : Nat × Row) (hr : r ∈ rows) : fetch rows r.1 = some r.2 := by
  induction rows with
  | nil => simp at hr
  | cons x xs ih =>
    simp only [RidsDistinct, List.map_cons, List.nodup_cons] at hd
    simp only [fetch, List.find?_cons]
    by_cases hx : x.1 = r.1
    · simp only [hx, beq_self_eq_true, Option.map_some]
      simp only [List.mem_cons] at hr
      rcases hr with rfl | hr
      · rfl
      · exfalso
        exact hd.1 (hx ▸ List.mem_map_of_mem hr)
    · have : (x.1 == r.1) = false := by simpa using hx
      simp only [this]
      simp only [List.mem_cons] at hr
      rcases hr with rfl | hr
      · exact absurd rfl hx
      · exact ih hd.2 hr

theorem rowPairs_remove (cols : List Nat) (rows : Rows) (hd : RidsDistinct rows) (rid : Nat) (old : Row)
    (hm : (rid, old) ∈ rows) :
    (rowPairs cols rows).Perm
      ((if hasNull (keyOf cols old) then [] else [(keyOf cols old, rid)]) ++ rowPairs cols (rows.filter (fun r => r.1 != rid))) :=
  (rowPairs_perm cols (perm_cons_filter_ne Prod.fst (l := rows) hd hm)).trans (.of_eq (rowPairs_cons ..))

theorem rids_filter (rows : Rows) (hd : RidsDistinct rows) (p : Nat × Row → Bool) : RidsDistinct (rows.filter p) :=
  List.Nodup.sublist (List.Sublist.map _ List.filter_sublist) hd

theorem update_perm (rows : Rows) (hd : RidsDistinct rows) (rid : Nat) (old new : Row) (hm : (rid, old) ∈ rows) :
    (rows.map (fun r => if r.1 == rid then (rid, new) else r)).Perm
      (rows.filter (fun r => r.1 != rid) ++ [(rid, new)]) := by
  refine ((perm_cons_filter_ne Prod.fst (l := rows) hd hm).map _).trans ?_
  have hne : ∀ r ∈ rows.filter (fun r => r.1 != rid), r.1 ≠ rid := fun r hr => bne_iff_ne.1 (List.mem_filter.1 hr).2
  rw [List.map_cons, if_pos (beq_self_eq_true rid), map_replace_self new hne]
  exact (List.perm_append_singleton _ _).symm

/-- no row of the table has this key (what the uniqueness check establishes before an insert) -/
def KeyFresh (ix : Index) (rows : Rows) (row : Row) : Prop :=
  hasNull (keyOf ix.cols row) = true ∨ keyOf ix.cols row ∉ (rowPairs ix.cols rows).map (·.1)

theorem insert_cols (ix : Index) (rid : Nat) (row : Row) : (ix.insert rid row).cols = ix.cols := by
  simp only [Index.insert]; split <;> rfl

theorem delete_cols (ix : Index) (row : Row) : (ix.delete row).cols = ix.cols := by
  simp only [Index.delete]; split <;> rfl

theorem insert_consistent (ix : Index) (rows : Rows) (rid : Nat) (row : Row) (hc : IndexConsistent ix rows)
    (hfresh : KeyFresh ix rows row) : IndexConsistent (ix.insert rid row) (rows ++ [(rid, row)]) := by
  obtain ⟨hk, hp⟩ := hc
  simp only [IndexConsistent, insert_cols, rowPairs_append]
  simp only [Index.insert]
  cases hn : hasNull (keyOf ix.cols row)
  · simp only [Bool.false_eq_true, if_false]
    rcases hfresh with hf | hf
    · rw [hn] at hf; simp at hf
    · constructor
      · exact insertEntry_keys_nodup _ _ hk
      · have hfree : ∀ x ∈ ix.entries, x.key = keyOf ix.cols row → x.dead = true := by
          intro x hx hxk
          cases hxd : x.dead
          · exfalso
            apply hf
            have : (x.key, x.rid) ∈ livePairs ix := by
              simp only [livePairs, Index.live, List.mem_map, List.mem_filter]
              exact ⟨x, ⟨hx, by simp [hxd]⟩, rfl⟩
            have := (hp.mem_iff).mp this
            rw [← hxk]
            exact List.mem_map_of_mem (f := (·.1)) this
          · rfl
        have := insertEntry_live { key := keyOf ix.cols row, rid := rid } ix.entries rfl hfree
        simp only [livePairs, Index.live]
        refine this.trans ?_
        simp only [pairOf]
        exact (List.Perm.cons _ hp).trans (List.perm_append_singleton _ _).symm
  · simp only [if_true, List.append_nil]
    exact ⟨hk, hp⟩

theorem delete_consistent (ix : Index) (rows : Rows) (rid : Nat) (old : Row) (hc : IndexConsistent ix rows)
    (hd : RidsDistinct rows) (hm : (rid, old) ∈ rows) :
    IndexConsistent (ix.delete old) (rows.filter (fun r => r.1 != rid)) := by
  obtain ⟨hk, hp⟩ := hc
  have hrem := rowPairs_remove ix.cols rows hd rid old hm
  simp only [IndexConsistent, delete_cols]
  simp only [Index.delete]
  cases hn : hasNull (keyOf ix.cols old)
  · simp only [Bool.false_eq_true, if_false]
    simp only [hn, Bool.false_eq_true, if_false, List.singleton_append] at hrem
    constructor
    · simp only [KeysDistinct, markDead_keys]; exact hk
    · have hmem : (keyOf ix.cols old, rid) ∈ (ix.entries.filter (fun e => !e.dead)).map pairOf := by
        have : (keyOf ix.cols old, rid) ∈ rowPairs ix.cols rows := (hrem.mem_iff).mpr (by simp)
        exact (hp.mem_iff).mpr this
      have hl := markDead_live (keyOf ix.cols old) rid ix.entries hk hmem
      have : ((keyOf ix.cols old, rid) :: ((markDead (keyOf ix.cols old) ix.entries).filter (fun e => !e.dead)).map pairOf).Perm
          ((keyOf ix.cols old, rid) :: rowPairs ix.cols (rows.filter (fun r => r.1 != rid))) :=
        hl.symm.trans (hp.trans hrem)
      exact this.cons_inv
  · simp only [if_true]
    simp only [hn, if_true, List.nil_append] at hrem
    exact ⟨hk, hp.trans hrem⟩

theorem consistent_of_perm (ix : Index) {r1 r2 : Rows} (h : r1.Perm r2) (hc : IndexConsistent ix r1) : IndexConsistent ix r2 :=
  ⟨hc.1, hc.2.trans (rowPairs_perm ix.cols h)⟩

theorem keyOf_congr (cols : List Nat) (a b : Row) (h : ∀ c ∈ cols, a.getD c .null = b.getD c .null) :
    keyOf cols a = keyOf cols b := by
  simp only [keyOf]
  exact List.map_congr_left h

theorem update_consistent (ix : Index) (rows : Rows) (rid : Nat) (old new : Row) (assigned : List Nat)
    (hc : IndexConsistent ix rows) (hd : RidsDistinct rows) (hm : (rid, old) ∈ rows)
    (hsame : ∀ c ∈ ix.cols, assigned.contains c = false → new.getD c .null = old.getD c .null)
    (hfresh : KeyFresh ix (rows.filter (fun r => r.1 != rid)) new) :
    IndexConsistent (ix.update {} rid old new assigned) (rows.map (fun r => if r.1 == rid then (rid, new) else r)) := by
  have hperm := update_perm rows hd rid old new hm
  apply consistent_of_perm _ hperm.symm
  simp only [Index.update]
  split
  · -- an indexed column is assigned: the entry moves
    simp only [Bool.false_eq_true, if_false]
    have h1 := delete_consistent ix rows rid old hc hd hm
    have hf : KeyFresh (ix.delete old) (rows.filter (fun r => r.1 != rid)) new := by
      simpa [KeyFresh, delete_cols] using hfresh
    exact insert_consistent _ _ rid new h1 hf
  · -- no indexed column is assigned: the key is the same
    rename_i hna
    have hkey : keyOf ix.cols new = keyOf ix.cols old := by
      apply keyOf_congr
      intro c hc'
      apply hsame c hc'
      simp only [List.any_eq_true, not_exists, not_and, Bool.not_eq_true] at hna
      exact hna c hc'
    obtain ⟨hk, hp⟩ := hc
    refine ⟨hk, hp.trans ?_⟩
    have hrem := rowPairs_remove ix.cols rows hd rid old hm
    rw [rowPairs_append, hkey]
    refine hrem.trans ?_
    exact List.perm_append_comm

theorem rids_apply (rows : Rows) (hd : RidsDistinct rows) : ∀ (op : Op),
    (match op with | .insert rid _ => rid ∉ rows.map (·.1) | _ => True) → RidsDistinct (apply rows op)
  | .insert rid row, h => by
    simp only [apply, RidsDistinct, List.map_append, List.map_cons, List.map_nil]
    exact nodup_concat hd h
  | .delete rid, _ => rids_filter rows hd _
  | .update rid new assigned, _ => by
    simp only [apply, RidsDistinct, List.map_map]
    have : (fun r : Nat × Row => r.1) ∘ (fun r => if r.1 == rid then (rid, new) else r) = (fun r => r.1) := by
      funext r
      simp only [Function.comp]
      split
      · rename_i h; simp only [beq_iff_eq] at h; exact h.symm
      · rfl
    rw [this]; exact hd

theorem filterMap_eq_map {α β} (l : List α) (f : α → Option β) (g : α → β) (h : ∀ x ∈ l, f x = some (g x)) :
    l.filterMap f = l.map g := by
  induction l with
  | nil => rfl
  | cons x xs ih => simp [h x (by simp), ih (fun y hy => h y (by simp [hy]))]

/-- Rows with NULL in the key have no entry: hence `!hasNull` on the right. -/
theorem scan_perm (ix : Index) (rows : Rows) (lo hi : List Bound) (hc : IndexConsistent ix rows) (hd : RidsDistinct rows) :
    (Index.scan ix rows lo hi).Perm
      ((rows.filter (fun r => !hasNull (keyOf ix.cols r.2) && boundsOk lo hi (keyOf ix.cols r.2))).map (·.2)) := by
  let g : List (List Value × Nat) → List Row :=
    fun ps => (ps.filter (fun p => boundsOk lo hi p.1)).filterMap (fun p => fetch rows p.2)
  have h1 : Index.scan ix rows lo hi = g (ix.ordered.map pairOf) := by
    simp only [Index.scan, g, List.filter_map, List.filterMap_map]
    rfl
  have hperm : (ix.ordered.map pairOf).Perm (rowPairs ix.cols rows) := by
    have : ix.ordered.Perm ix.live := perm_sortBy _ _
    exact (this.map pairOf).trans hc.2
  have h2 : (g (ix.ordered.map pairOf)).Perm (g (rowPairs ix.cols rows)) := by
    simp only [g]
    exact (hperm.filter _).filterMap _
  rw [h1]
  refine h2.trans (List.Perm.of_eq ?_)
  simp only [g, rowPairs, List.filter_map, List.filter_filter, List.filterMap_map]
  rw [filterMap_eq_map _ _ (·.2)]
  · congr 1
    apply List.filter_congr
    intro r _
    simp [Function.comp, Bool.and_comm]
  · intro r hr
    simp only [List.mem_filter] at hr
    exact fetch_of_mem rows hd r hr.1

theorem mem_tPairs_cons (committed : List Nat) (self : Nat) (x : TEntry) (xs : List TEntry) (p : List Value × Nat) :
    p ∈ tPairs committed self (x :: xs)
      ↔ (x.visible committed self = true ∧ p = (x.key, x.rid)) ∨ p ∈ tPairs committed self xs := by
  simp only [tPairs, List.filter_cons]
  cases hv : x.visible committed self <;> simp

theorem tPairs_key_mem (committed : List Nat) (self : Nat) (es : List TEntry) (p : List Value × Nat)
    (h : p ∈ tPairs committed self es) : p.1 ∈ es.map (·.key) := by
  simp only [tPairs, List.mem_map, List.mem_filter] at h ⊢
  obtain ⟨e, ⟨he, _⟩, rfl⟩ := h
  exact ⟨e, he, rfl⟩

theorem seen_self (committed : List Nat) (self : Nat) : seen committed self self = true := by
  simp [seen]

theorem visible_new (committed : List Nat) (tid : Nat) (k : List Value) (rid : Nat) :
    TEntry.visible committed tid { key := k, rid := rid, xmin := tid } = true := by
  simp [TEntry.visible, seen_self]

theorem tDelete_head (committed : List Nat) (tid : Nat) (x : TEntry) (xs : List TEntry)
    (hv : x.visible committed tid = true) :
    tDelete committed tid x.key (x :: xs) = { x with xmax := some tid } :: xs := by
  simp [tDelete, hv]

theorem tInsert_head_marked (committed aborted : List Nat) (tid : Nat) (x : TEntry) (xs : List TEntry) (rid d : Nat)
    (hx : x.xmax = some d) :
    tInsert {} committed aborted tid x.key rid (x :: xs) = { key := x.key, rid := rid, xmin := tid } :: xs := by
  simp [tInsert, hx]

theorem tInsert_head_aborted (committed aborted : List Nat) (tid : Nat) (x : TEntry) (xs : List TEntry) (rid : Nat)
    (hx : aborted.contains x.xmin = true) :
    tInsert {} committed aborted tid x.key rid (x :: xs) = { key := x.key, rid := rid, xmin := tid } :: xs := by
  have hx' : x.xmin ∈ aborted := by simpa using hx
  simp [tInsert, hx']

theorem tInsert_tail (D : TxDefects) (committed aborted : List Nat) (tid : Nat) (k : List Value) (x : TEntry)
    (xs : List TEntry) (rid : Nat) (hk : ¬ x.key = k) :
    tInsert D committed aborted tid k rid (x :: xs) = x :: tInsert D committed aborted tid k rid xs := by
  simp [tInsert, hk]

theorem tDelete_tail (committed : List Nat) (tid : Nat) (k : List Value) (x : TEntry) (xs : List TEntry)
    (hk : ¬ x.key = k) : tDelete committed tid k (x :: xs) = x :: tDelete committed tid k xs := by
  simp [tDelete, hk]

theorem delete_then_insert_pairs (committed aborted : List Nat) (tid : Nat) (k : List Value) (rid rid' : Nat) :
    ∀ (es : List TEntry), (es.map (·.key)).Nodup → (k, rid) ∈ tPairs committed tid es →
      ∀ p, p ∈ tPairs committed tid (tInsert {} committed aborted tid k rid' (tDelete committed tid k es))
        ↔ (p = (k, rid') ∨ (p ∈ tPairs committed tid es ∧ p.1 ≠ k))
  | [], _, hm, _ => by simp [tPairs] at hm
  | x :: xs, hn, hm, p => by
    simp only [List.map_cons, List.nodup_cons] at hn
    by_cases hk : x.key = k
    · subst hk
      have hnot : ∀ q ∈ tPairs committed tid xs, q.1 ≠ x.key := by
        intro q hq hqk
        exact hn.1 (by rw [← hqk]; exact tPairs_key_mem _ _ _ _ hq)
      have hvis : x.visible committed tid = true := by
        rcases (mem_tPairs_cons _ _ _ _ _).mp hm with h | h
        · exact h.1
        · exact absurd rfl (hnot _ h)
      rw [tDelete_head _ _ _ _ hvis]
      have := tInsert_head_marked committed aborted tid { x with xmax := some tid } xs rid' tid rfl
      simp only at this
      rw [this, mem_tPairs_cons, mem_tPairs_cons]
      simp only [visible_new, true_and, hvis]
      constructor
      · rintro (h | h)
        · exact Or.inl h
        · exact Or.inr ⟨Or.inr h, hnot p h⟩
      · rintro (h | ⟨h | h, hne⟩)
        · exact Or.inl h
        · exact absurd (by rw [h]) hne
        · exact Or.inr h
    · have hm' : (k, rid) ∈ tPairs committed tid xs := by
        rcases (mem_tPairs_cons _ _ _ _ _).mp hm with h | h
        · simp only [Prod.mk.injEq] at h
          exact absurd h.2.1.symm hk
        · exact h
      have ih := delete_then_insert_pairs committed aborted tid k rid rid' xs hn.2 hm' p
      rw [tDelete_tail _ _ _ _ _ hk, tInsert_tail _ _ _ _ _ _ _ _ hk, mem_tPairs_cons, mem_tPairs_cons, ih]
      constructor
      · rintro (⟨hv, h⟩ | h | ⟨h, hne⟩)
        · exact Or.inr ⟨Or.inl ⟨hv, h⟩, by rw [h]; exact hk⟩
        · exact Or.inl h
        · exact Or.inr ⟨Or.inr h, hne⟩
      · rintro (h | ⟨h | h, hne⟩)
        · exact Or.inr (Or.inl h)
        · exact Or.inl h
        · exact Or.inr (Or.inr ⟨h, hne⟩)

theorem insert_gets_entry (committed aborted : List Nat) (tid : Nat) (k : List Value) (rid' : Nat) (es : List TEntry)
    (h : ∀ e ∈ es, e.key = k → aborted.contains e.xmin = true ∨ e.xmax.isSome = true) :
      (k, rid') ∈ tPairs committed tid (tInsert {} committed aborted tid k rid' es) := by
  fun_induction tInsert {} committed aborted tid k rid' es
  case case1 => exact (mem_tPairs_cons ..).2 (.inl ⟨visible_new .., rfl⟩)
  case case2 => exact (mem_tPairs_cons ..).2 (.inl ⟨visible_new .., rfl⟩)
  case case3 x xs hk free hfree =>
    -- the entry under the key is free by hypothesis
    rcases h x List.mem_cons_self hk with hf | hf
    · simp [free] at hfree
      exact absurd (by simpa using hf) hfree.1
    · cases hx : x.xmax <;> simp [free, hx] at hf hfree
  case case4 x xs _ ih =>
    exact (mem_tPairs_cons ..).2 (.inr (ih fun e he => h e (List.mem_cons_of_mem _ he)))

theorem tPairs_after_commit (committed : List Nat) (tid r : Nat) (es : List TEntry)
    (hr : ∀ e ∈ es, e.xmin ≠ r ∧ e.xmax ≠ some r) : tPairs (tid :: committed) r es = tPairs committed tid es := by
  simp only [tPairs]
  congr 1
  apply List.filter_congr
  intro e he
  obtain ⟨h1, h2⟩ := hr e he
  have hs : ∀ t, t ≠ r → seen (tid :: committed) r t = seen committed tid t := by
    intro t ht
    have : (t == r) = false := by simpa using ht
    simp only [seen, this, Bool.false_or, List.contains_cons]
  simp only [TEntry.visible, hs e.xmin h1]
  cases hx : e.xmax with
  | none => rfl
  | some x =>
    have : x ≠ r := fun h => h2 (by rw [hx, h])
    simp [hs x this]

end AxVerif.Index
