/-
  Helper lemmas for the tuple model, part 2: the main part of a tuple (header, null bitmap, keys, values):
  `parseLast` and `toRow` on bytes that start with `encMain …`.
-/
import AxVerif.Lemmas.TupleBase
namespace AxVerif.Tuple
open AxVerif

def CellsFit (P : Params) : List Kind → List Cell → Prop
  | [], [] => True
  | _ :: ks, none :: cs => CellsFit P ks cs
  | k :: ks, some p :: cs => FitsKind P k p ∧ CellsFit P ks cs
  | _, _ => False

/- `instDecidableCellsFit` in the recursive calls is the name Lean gives this (anonymous) instance. -/
instance (P : Params) : (ks : List Kind) → (cs : List Cell) → Decidable (CellsFit P ks cs)
  | [], [] => isTrue trivial
  | [], _ :: _ => isFalse (by simp [CellsFit])
  | _ :: _, [] => isFalse (by simp [CellsFit])
  | _ :: ks, none :: cs => by
    unfold CellsFit
    exact instDecidableCellsFit P ks cs
  | k :: ks, some p :: cs => by
    unfold CellsFit
    have := instDecidableCellsFit P ks cs
    exact inferInstance

theorem CellsFit.tail {P : Params} {k : Kind} {ks : List Kind} {c : Cell} {cs : List Cell}
    (h : CellsFit P (k :: ks) (c :: cs)) : CellsFit P ks cs := by
  cases c with
  | none => exact h
  | some p => exact h.2

theorem CellsFit.length {P : Params} : ∀ {ks : List Kind} {cs : List Cell}, CellsFit P ks cs → cs.length = ks.length
  | [], [], _ => rfl
  | [], _ :: _, h => h.elim
  | _ :: _, [], h => h.elim
  | _ :: _, _ :: _, h => congrArg (· + 1) (CellsFit.length h.tail)

theorem CellsFit.get {P : Params} : ∀ {ks : List Kind} {cs : List Cell}, CellsFit P ks cs →
    ∀ (j : Nat) (k : Kind) (p : Bytes), ks[j]? = some k → cs[j]? = some (some p) → FitsKind P k p := by
  intro ks
  induction ks with
  | nil => intro cs _ j k p hk; cases hk
  | cons k0 ks ih =>
    intro cs h j k p hk hc
    cases cs with
    | nil => exact h.elim
    | cons c cs =>
      cases j with
      | succ j => exact ih h.tail j k p hk hc
      | zero =>
        cases c with
        | none => cases hc
        | some p0 => cases hk; cases hc; exact h.1

theorem CellsFit.of_get {P : Params} : ∀ {ks : List Kind} {cs : List Cell}, cs.length = ks.length →
    (∀ (j : Nat) (k : Kind) (p : Bytes), ks[j]? = some k → cs[j]? = some (some p) → FitsKind P k p) → CellsFit P ks cs := by
  intro ks
  induction ks with
  | nil =>
    intro cs h _
    cases cs with
    | nil => trivial
    | cons _ _ => cases h
  | cons k ks ih =>
    intro cs h hg
    cases cs with
    | nil => cases h
    | cons c cs =>
      have tl := ih (Nat.succ.inj h) fun j k p hk hc => hg (j + 1) k p hk hc
      cases c with
      | none => exact tl
      | some p => exact ⟨hg 0 k p rfl rfl, tl⟩

structure CellsAt (P : Params) (d : Bytes) (ks : List Kind) (offs : List Nat) (cs : List Cell) : Prop where
  len_o : offs.length = ks.length
  len_c : cs.length = ks.length
  rd : ∀ (j : Nat) (k : Kind) (o : Nat) (p : Bytes), ks[j]? = some k → offs[j]? = some o → cs[j]? = some (some p) →
    ∃ e, deser P k d o = .ok (p, e)

theorem CellsAt.nil (P : Params) (d : Bytes) : CellsAt P d [] [] [] :=
  ⟨rfl, rfl, fun _ _ _ _ hk => by cases hk⟩

theorem CellsAt.cons {P : Params} {d : Bytes} {k : Kind} {ks : List Kind} {o : Nat} {os : List Nat} {c : Cell}
    {cs : List Cell} (hd : ∀ p, c = some p → ∃ e, deser P k d o = .ok (p, e)) (tl : CellsAt P d ks os cs) :
    CellsAt P d (k :: ks) (o :: os) (c :: cs) := by
  refine ⟨congrArg (· + 1) tl.len_o, congrArg (· + 1) tl.len_c, ?_⟩
  intro j k' o' p hk ho hc
  cases j with
  | zero => cases hk; cases ho; cases hc; exact hd p rfl
  | succ j => exact tl.rd j k' o' p hk ho hc

theorem CellsAt.uncons {P : Params} {d : Bytes} {k : Kind} {ks : List Kind} {offs : List Nat} {cs : List Cell}
    (h : CellsAt P d (k :: ks) offs cs) :
    ∃ o os c cs', offs = o :: os ∧ cs = c :: cs' ∧ (∀ p, c = some p → ∃ e, deser P k d o = .ok (p, e))
      ∧ CellsAt P d ks os cs' := by
  obtain ⟨h1, h2, h3⟩ := h
  cases offs with
  | nil => cases h1
  | cons o os =>
    cases cs with
    | nil => cases h2
    | cons c cs' =>
      exact ⟨o, os, c, cs', rfl, rfl, fun p hp => h3 0 k o p rfl rfl (congrArg some hp),
        Nat.succ.inj h1, Nat.succ.inj h2, fun j k' o' p hk ho hc => h3 (j + 1) k' o' p hk ho hc⟩

def NullsAt (rd : Nat → R Bool) (i : Nat) (cs : List Cell) : Prop :=
  ∀ j, j < cs.length → rd (i + j) = .ok (isNullAt cs j)

theorem NullsAt.head {rd : Nat → R Bool} {i : Nat} {c : Cell} {cs : List Cell} (h : NullsAt rd i (c :: cs)) :
    rd i = .ok c.isNone := by
  have := h 0 (Nat.zero_lt_succ _)
  rwa [isNullAt_of_getElem? (c := c) rfl] at this

theorem NullsAt.tail {rd : Nat → R Bool} {i : Nat} {c : Cell} {cs : List Cell} (h : NullsAt rd i (c :: cs)) :
    NullsAt rd (i + 1) cs := by
  intro j hj
  have := h (j + 1) (Nat.succ_lt_succ hj)
  rwa [isNullAt_cons_succ, ← Nat.add_assoc, Nat.add_right_comm] at this

theorem nullOf_some (b : Bytes) : nullOf (some b) = checkNull b := rfl

theorem nullsAt_mkBitmap (vals : List Cell) : NullsAt (checkNull (mkBitmap vals)) 0 vals := by
  intro j hj
  rw [Nat.zero_add, checkNull_mkBitmap vals j hj]

theorem nullsAt_keys (keys : List Bytes) (i : Nat) : NullsAt (nullOf none) i (keys.map some) := by
  intro j hj
  rw [List.length_map] at hj
  rw [isNullAt_of_getElem? (c := some keys[j]) (by simp [hj])]
  rfl

theorem skipCells_emit {P : Params} (hP : P.Wf) {d : Bytes} {bm : Option Bytes} :
    ∀ (ks : List Kind) (cs : List Cell) (i o : Nat),
      CellsFit P ks cs → NullsAt (nullOf bm) i cs → At d o (emitCells P o ks cs) →
      ∃ offs, skipCells P d bm ks i o = .ok (offs, o + (emitCells P o ks cs).length) ∧ CellsAt P d ks offs cs := by
  intro ks
  induction ks with
  | nil =>
    intro cs i o hf _ _
    cases cs with
    | nil => exact ⟨[], rfl, CellsAt.nil P d⟩
    | cons _ _ => exact hf.elim
  | cons k ks ih =>
    intro cs i o hf hn h
    cases cs with
    | nil => exact hf.elim
    | cons c cs =>
      cases c with
      | none =>
        obtain ⟨offs, hs, hc⟩ := ih cs (i + 1) o hf hn.tail h
        refine ⟨o :: offs, ?_, CellsAt.cons (fun p hp => by cases hp) hc⟩
        simp only [skipCells, hn.head, Option.isNone_none, hs, emitCells]
      | some p =>
        have hde := deser_emitVal hP hf.1 h.left
        obtain ⟨offs, hs, hc⟩ := ih cs (i + 1) _ hf.2 hn.tail h.right
        refine ⟨o :: offs, ?_, CellsAt.cons (fun q hq => by cases hq; exact ⟨_, hde⟩) hc⟩
        simp only [skipCells, hn.head, Option.isNone_some, hde, hs, emitCells, List.length_append, Nat.add_assoc]

theorem encHeader_length {P : Params} (hP : P.Wf) (xmin : Nat) (xmax : Option Nat) (ver : Nat) :
    (encHeader P xmin xmax ver).length = P.hdrSize := by
  simp [encHeader, hP.parts.hdr]

theorem encDeltaHeader_length {P : Params} (hP : P.Wf) (xmin ver : Nat) :
    (encDeltaHeader P xmin ver).length = P.dhSize := by
  simp [encDeltaHeader, hP.parts.dh]

/-- `xmax` is stored as an `i64` -/
def XmaxOk : Option Nat → Prop
  | none => True
  | some x => x < 2 ^ 63

instance : (x : Option Nat) → Decidable (XmaxOk x)
  | none => isTrue trivial
  | some x => inferInstanceAs (Decidable (x < 2 ^ 63))

theorem xmaxField_roundtrip {xmax : Option Nat} (h : XmaxOk xmax) :
    xmaxField xmax < 2 ^ 64 ∧ (if xmaxField xmax < 2 ^ 63 then some (xmaxField xmax) else none) = xmax := by
  cases xmax with
  | none => exact ⟨by decide, by decide⟩
  | some x => exact ⟨Nat.lt_trans h (by decide), if_pos h⟩

theorem readHeader_encHeader {P : Params} (hP : P.Wf) {xmin : Nat} {xmax : Option Nat} {ver : Nat}
    (hx : xmin < 2 ^ 64) (hxm : XmaxOk xmax) (hv : ver < 256) {d : Bytes} (h : At d 0 (encHeader P xmin xmax ver)) :
    readHeader P d = .ok { xmin := xmin, xmax := xmax, version := ver } := by
  have hs := h.slice
  rw [encHeader_length hP] at hs
  simp only [readHeader, hs, encHeader, List.append_assoc]
  rw [take8_le64, drop8_le64, take8_le64, drop16_le64]
  simp only [List.cons_append, List.nil_append, List.take_succ_cons, List.take_zero]
  rw [rdLE_le64 _ hx, rdLE_byte _ hv, rdLE_le64 _ (xmaxField_roundtrip hxm).1, (xmaxField_roundtrip hxm).2]

theorem readKeys_of_cellsAt {P : Params} {d : Bytes} : ∀ (ks : List Kind) (offs : List Nat) (keys : List Bytes),
    CellsAt P d ks offs (keys.map some) → readKeys P d ks offs = .ok keys := by
  intro ks
  induction ks with
  | nil =>
    intro offs keys h
    cases keys with
    | nil => rfl
    | cons _ _ => cases h.len_c
  | cons k ks ih =>
    intro offs keys h
    obtain ⟨o, os, c, cs, rfl, hcs, hd, tl⟩ := h.uncons
    cases keys with
    | nil => cases hcs
    | cons key keys =>
      cases hcs
      obtain ⟨e, he⟩ := hd key rfl
      simp only [readKeys, he, ih os keys tl]

theorem readVals_of_cellsAt {P : Params} {d : Bytes} {bm : Bytes} : ∀ (ks : List Kind) (offs : List Nat) (cs : List Cell)
    (i : Nat), CellsAt P d ks offs cs → NullsAt (checkNull bm) i cs → readVals P d bm ks offs i = .ok cs := by
  intro ks
  induction ks with
  | nil =>
    intro offs cs i h _
    cases cs with
    | nil => rfl
    | cons _ _ => cases h.len_c
  | cons k ks ih =>
    intro offs cs i h hn
    obtain ⟨o, os, c, cs, rfl, rfl, hd, tl⟩ := h.uncons
    have ih := ih os cs (i + 1) tl hn.tail
    cases c with
    | none => simp only [readVals, hn.head, Option.isNone_none, ih]
    | some p =>
      obtain ⟨e, he⟩ := hd p rfl
      simp only [readVals, hn.head, Option.isNone_some, he, ih]

structure LayoutOk (P : Params) (sch : Schema) (d : Bytes) (lay : Layout) (keys : List Bytes) (vals : List Cell) : Prop where
  keysAt : CellsAt P d sch.keys lay.keyOffs (keys.map some)
  valsAt : CellsAt P d sch.vals lay.valOffs vals
  bitmap : slice d lay.nullStart (bitmapSize sch.vals.length) = .ok (mkBitmap vals)

theorem toRow_of_layoutOk {P : Params} {sch : Schema} {d : Bytes} {lay : Layout} {keys : List Bytes} {vals : List Cell}
    (h : LayoutOk P sch d lay keys vals) : toRow P sch d lay = .ok { keys := keys, vals := vals } := by
  simp only [toRow, readKeys_of_cellsAt _ _ _ h.keysAt, h.bitmap,
    readVals_of_cellsAt _ _ _ 0 h.valsAt (nullsAt_mkBitmap vals)]

theorem parseLast_main {P : Params} (hP : P.Wf) (sch : Schema) {xmin : Nat} {xmax : Option Nat} {ver : Nat}
    {keys : List Bytes} {vals : List Cell} (hx : xmin < 2 ^ 64) (hxm : XmaxOk xmax) (hv : ver < 256)
    (hk : CellsFit P sch.keys (keys.map some)) (hvv : CellsFit P sch.vals vals)
    {d : Bytes} (h : At d 0 (encMain P sch xmin xmax ver keys vals)) :
    ∃ lay, parseLast P sch d = .ok lay
      ∧ lay.vxmin = xmin ∧ lay.vxmax = xmax ∧ lay.version = ver
      ∧ lay.dataEnd = (encMain P sch xmin xmax ver keys vals).length
      ∧ LayoutOk P sch d lay keys vals := by
  have hHB : (encHeader P xmin xmax ver ++ mkBitmap vals).length = P.hdrSize + bitmapSize sch.vals.length := by
    rw [List.length_append, encHeader_length hP, mkBitmap_length, hvv.length]
  -- header, bitmap, keys and values, each at its offset
  simp only [encMain, hHB] at h ⊢
  have h1 := readHeader_encHeader hP hx hxm hv h.left.left.left
  have h2 := h.left.left.right.slice
  rw [Nat.zero_add, encHeader_length hP, mkBitmap_length, hvv.length] at h2
  have hK := h.left.right
  rw [Nat.zero_add, hHB] at hK
  obtain ⟨ko, h3, hck⟩ := skipCells_emit hP (bm := none) sch.keys (keys.map some) 0 _ hk (nullsAt_keys keys 0) hK
  have hV := h.right
  rw [Nat.zero_add, List.length_append, hHB] at hV
  obtain ⟨vo, h4, hcv⟩ := skipCells_emit hP (bm := some (mkBitmap vals)) sch.vals vals 0 _ hvv
    (nullOf_some _ ▸ nullsAt_mkBitmap vals) hV
  simp only [parseLast, h1, h2, h3, h4, Except.ok.injEq, exists_eq_left', List.length_append, hHB, true_and]
  exact ⟨hck, hcv, h2⟩

theorem decodeLast_main {P : Params} (hP : P.Wf) (sch : Schema) {xmin : Nat} {xmax : Option Nat} {ver : Nat}
    {keys : List Bytes} {vals : List Cell} (hx : xmin < 2 ^ 64) (hxm : XmaxOk xmax) (hv : ver < 256)
    (hk : CellsFit P sch.keys (keys.map some)) (hvv : CellsFit P sch.vals vals)
    {d : Bytes} (h : At d 0 (encMain P sch xmin xmax ver keys vals)) :
    decodeLast P sch d = .ok { keys := keys, vals := vals } := by
  obtain ⟨lay, h, _, _, _, _, hl⟩ := parseLast_main hP sch hx hxm hv hk hvv h
  simp only [decodeLast, h, toRow_of_layoutOk hl]

end AxVerif.Tuple
