/- C06: the plan algebra and the reference evaluator of C05. -/
import AxVerif.Lemmas.PlanRules
namespace AxVerif.Plan
open AxVerif.Sql AxVerif.Index

theorem isTrueOn_holds (tys : List Ty) (e : Expr) : isTrueOn (evalPred {} tys e) = holds tys e := by
  funext r
  simp only [isTrueOn, holds]
  cases evalPred {} tys e r with
  | error x => rfl
  | ok b => cases b <;> rfl

theorem filterRows_holds (tys : List Ty) (e : Expr) (rows out : List Row)
    (h : filterRows (evalPred {} tys e) rows = .ok out) : out = rows.filter (holds tys e) := by
  rw [← isTrueOn_holds]; exact filterRows_eq _ _ _ h

theorem mapE_filterMap {α β} (f : α → Except Err β) (g : α → Option β) (hg : ∀ x y, f x = .ok y → g x = some y)
    (xs : List α) (ys : List β) (h : mapE f xs = .ok ys) : xs.filterMap g = ys := by
  have h1 : ys.map some = xs.map g := mapE_map_eq (p := some) (q := g) (fun x y hxy => (hg x y hxy).symm) h
  calc xs.filterMap g = (xs.map g).filterMap id := by rw [List.filterMap_map]; rfl
    _ = (ys.map some).filterMap id := by rw [h1]
    _ = ys := by rw [List.filterMap_map]; exact List.filterMap_some

theorem getD_of_getElem? {α} (l : List α) (i : Nat) (d x : α) (h : l[i]? = some x) : l.getD i d = x := by
  simp [List.getD_eq_getElem?_getD, h]

theorem evalPlanE_ok (st : Store) (p : Plan) (rows : List Row) (h : evalPlanE st p = .ok rows) : rows = evalPlan st p := by
  revert rows
  fun_induction evalPlanE st p <;> intro rows h
  case case1 t tb ht =>
    cases h
    simp only [evalPlan, getD_of_getElem? st t default tb ht]
  case case5 t k lo hi tb ht ix hix =>
    cases h
    simp only [evalPlan, indexScanRows, getD_of_getElem? st t default tb ht, hix]
    exact (List.filter_eq_self.mpr (fun _ _ => rfl)).symm
  case case6 t k lo hi tb ht ix hix e =>
    simp only [evalPlan, indexScanRows, getD_of_getElem? st t default tb ht, hix]
    rw [filterRows_holds _ _ _ _ h]
    rfl
  case case8 e c crows hc ih =>
    rw [filterRows_holds _ _ _ _ h, ih crows hc]
    rfl
  case case10 items c crows hc ih =>
    simp only [evalPlan, ← ih crows hc]
    exact (mapE_filterMap _ _ (fun x y hxy => by simp [hxy]) _ _ h).symm
  case case14 k on l r lrows hl rrows hr _ _ _ ihl ihr =>
    cases h
    simp only [evalPlan, ← ihl lrows hl, ← ihr rrows hr]
    rfl
  all_goals cases h

theorem db_getElem? (st : Store) (t : Nat) : st.db[t]? = (st[t]?).map STable.toDef := by
  simp [Store.db]

theorem fromPlan_tys (st : Store) : ∀ (f : From), (fromPlan f).tys st = f.tys st.db
  | .table t => by
    simp only [fromPlan, Plan.tys, From.tys, List.getD_eq_getElem?_getD, db_getElem?]
    cases st[t]? <;> rfl
  | .join k l r on => by
    simp only [fromPlan, Plan.tys, From.tys, fromPlan_tys st l, fromPlan_tys st r]
  | .derived f w items => by
    cases w <;> simp only [fromPlan, Plan.tys, From.tys, fromPlan_tys st f]

theorem evalFrom_plan (st : Store) : ∀ (f : From), evalFrom {} st.db f = evalPlanE st (fromPlan f)
  | .table t => by
    simp only [evalFrom, fromPlan, evalPlanE, db_getElem?]
    cases st[t]? <;> rfl
  | .join k l r on => by
    rw [evalFrom_join, evalFrom_plan st l, evalFrom_plan st r]
    simp only [fromPlan, evalPlanE, Plan.width, fromPlan_tys]
    cases on <;> rfl
  | .derived f w items => by
    cases w with
    | none =>
      simp only [evalFrom, fromPlan, evalPlanE, applyWhere, evalFrom_plan st f, fromPlan_tys]
      cases evalPlanE st (fromPlan f) <;> rfl
    | some e =>
      simp only [evalFrom, fromPlan, evalPlanE, applyWhere, evalFrom_plan st f, fromPlan_tys, Plan.tys]
      cases evalPlanE st (fromPlan f) with
      | error x => rfl
      | ok rows => cases filterRows (evalPred {} (f.tys st.db) e) rows <;> rfl

def plainQuery (q : Select) : Bool :=
  q.aggs.isEmpty && q.groupBy.isEmpty && q.orderBy.isEmpty && !q.distinct && q.limit.isNone && q.offset.isNone

theorem evalSelect_plan (st : Store) (nf : Bool) (q : Select) (hq : plainQuery q = true) :
    evalSelect {} nf st.db q = evalPlanE st (boundPlan q) := by
  obtain ⟨distinct, from_, where_, groupBy, aggs, items, orderBy, limit, offset, having⟩ := q
  simp only [plainQuery, Bool.and_eq_true, List.isEmpty_iff, Bool.not_eq_eq_eq_not, Bool.not_true,
    Option.isNone_iff_eq_none] at hq
  obtain ⟨⟨⟨⟨⟨rfl, rfl⟩, rfl⟩, rfl⟩, rfl⟩, rfl⟩ := hq
  simp only [evalSelect, boundPlan, evalFrom_plan, applyWhere, produce, Select.isAgg, projectAll, List.isEmpty_nil,
    Bool.not_true, Bool.or_self, Bool.not_false, if_true, finish,
    limitOffset, Option.getD_none, List.drop_zero, Bool.false_eq_true, if_false]
  cases hf : evalPlanE st (fromPlan from_) with
  | error x => cases where_ <;> cases items <;> simp [evalPlanE, hf]
  | ok rows0 =>
    cases where_ with
    | none =>
      cases items with
      | none => simp [hf]
      | some its =>
        simp only [evalPlanE, hf, fromPlan_tys]
        cases mapE (projectRow {} (from_.tys st.db) its) rows0 <;> rfl
    | some w =>
      cases hw : filterRows (evalPred {} (from_.tys st.db) w) rows0 with
      | error x => cases items <;> simp [evalPlanE, hf, hw, fromPlan_tys]
      | ok rows1 =>
        cases items with
        | none => simp [evalPlanE, hf, hw, fromPlan_tys]
        | some its =>
          simp only [evalPlanE, hf, hw, fromPlan_tys, Plan.tys]
          cases mapE (projectRow {} (from_.tys st.db) its) rows1 <;> rfl

end AxVerif.Plan
