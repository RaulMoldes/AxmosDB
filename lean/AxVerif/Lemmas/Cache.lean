/-
  The cache / pager model (Model/Cache.lean) against a flat page store `Spec`, for Thm/C12.lean. `evict`, `insert`,
  `cache_frame` are each characterised once (`evict_spec`, `insert_spec`, `cacheFrame_spec`), `read_page` is taken
  apart by its own case principle; the invariant `InvX` ties the pager to the store and is moved by `InvX.evict`,
  `InvX.add` and `Coupled.write`; `step_coupled` is the simulation step. What holds of the cache alone goes through `step_cache_ind`.
  The last section (namespace `AxVerif.Config`) is the page-size and header arithmetic of Model/Config.lean.
-/
import AxVerif.Model.Cache
import AxVerif.Model.Config
namespace AxVerif.Cache

theorem set_perm {β : Type} (m : List β) (y : β) (i : Nat) (h : i < m.length) :
    (m ++ [y]).Perm (m[i] :: m.set i y) := by
  induction m generalizing i with
  | nil => cases h
  | cons x xs ih =>
    cases i with
    | zero => exact (List.perm_append_singleton y xs).cons x
    | succ j => exact ((ih j (Nat.lt_of_succ_lt_succ h)).cons x).trans (List.Perm.swap _ _ _)

theorem swapRemoveAt_perm (l : List Frame) (i : Nat) (f : Frame) (h : l[i]? = some f) :
    l.Perm (f :: swapRemoveAt l i) := by
  obtain ⟨hi, rfl⟩ := List.getElem?_eq_some_iff.mp h
  unfold swapRemoveAt
  cases hl : l.getLast? with
  | none => rw [List.getLast?_eq_none_iff.mp hl] at hi; cases hi
  | some y =>
    obtain ⟨m, rfl⟩ := List.getLast?_eq_some_iff.mp hl
    rw [List.length_append, List.length_singleton] at hi ⊢
    by_cases h1 : i = m.length
    · subst h1
      simp only [if_true, List.dropLast_concat, List.getElem_concat_length]
      exact List.perm_append_singleton y m
    · have h2 : i < m.length := by omega
      simp only [Nat.add_right_cancel_iff, h1, if_false, Nat.add_lt_add_iff_right, h2, if_true,
        List.set_append_left _ _ h2, List.dropLast_concat, List.getElem_append_left h2]
      exact set_perm m y i h2

theorem map_key_of_keeps {α : Type} (key : Frame → α) (φ : Frame → Frame) (h : ∀ x, key (φ x) = key x)
    (l : List Frame) : (l.map φ).map key = l.map key := by
  rw [List.map_map]
  exact List.map_congr_left (fun x _ => h x)

theorem nodup_map_concat {α : Type} (key : Frame → α) {l : List Frame} {f : Frame} (hnd : (l.map key).Nodup)
    (hf : ∀ g ∈ l, key g ≠ key f) : ((l ++ [f]).map key).Nodup := by
  rw [List.map_append, List.nodup_append]
  refine ⟨hnd, List.pairwise_singleton _ _, fun a ha b hb => ?_⟩
  obtain ⟨g, hg, rfl⟩ := List.mem_map.mp ha
  rw [List.map_singleton, List.mem_singleton] at hb
  exact hb ▸ hf g hg

theorem nodup_map_split {α : Type} (key : Frame → α) {l out rest : List Frame} (hp : l.Perm (out ++ rest))
    (hnd : (l.map key).Nodup) :
    (out.map key).Nodup ∧ (rest.map key).Nodup ∧ ∀ a ∈ out, ∀ b ∈ rest, key a ≠ key b := by
  have := (hp.map key).nodup_iff.mp hnd
  rw [List.map_append, List.nodup_append] at this
  exact ⟨this.1, this.2.1, fun a ha b hb => this.2.2 _ (List.mem_map_of_mem ha) _ (List.mem_map_of_mem hb)⟩

theorem eq_of_key_eq {α : Type} (key : Frame → α) {l : List Frame} (hnd : (l.map key).Nodup) {a b : Frame}
    (ha : a ∈ l) (hb : b ∈ l) (h : key a = key b) : a = b := by
  induction l with
  | nil => cases ha
  | cons x xs ih =>
    rw [List.map_cons, List.nodup_cons] at hnd
    rcases List.mem_cons.mp ha with rfl | ha' <;> rcases List.mem_cons.mp hb with rfl | hb'
    · rfl
    · exact (hnd.1 (h ▸ List.mem_map_of_mem hb')).elim
    · exact (hnd.1 (h ▸ List.mem_map_of_mem ha')).elim
    · exact ih hnd.2 ha' hb'

theorem firstFree_some {free : Frame → Bool} {l : List Frame} {b i : Nat} (h : firstFree free l b = some i) :
    b ≤ i ∧ ∃ f, l[i - b]? = some f ∧ free f = true := by
  fun_induction firstFree free l b with
  | case1 b => cases h
  | case2 x xs b hx =>
    cases h
    exact ⟨Nat.le_refl _, x, by rw [Nat.sub_self]; rfl, hx⟩
  | case3 x xs b hx ih =>
    obtain ⟨h1, f, h2, h3⟩ := ih h
    refine ⟨Nat.le_of_succ_le h1, f, ?_, h3⟩
    rw [show i - b = (i - (b + 1)) + 1 by omega]
    exact h2

theorem firstFree_none {free : Frame → Bool} {l : List Frame} {b : Nat} (h : firstFree free l b = none) :
    ∀ f ∈ l, free f = false := by
  fun_induction firstFree free l b with
  | case1 b => exact fun f hf => nomatch hf
  | case2 x xs b hx => cases h
  | case3 x xs b hx ih =>
    exact fun f hf => (List.mem_cons.mp hf).elim (fun e => e ▸ Bool.eq_false_iff.mpr hx) (ih h f)

theorem firstFree_drop_some {free : Frame → Bool} {l : List Frame} {s i : Nat}
    (h : firstFree free (l.drop s) s = some i) : ∃ f, l[i]? = some f ∧ free f = true := by
  obtain ⟨h1, f, h2, h3⟩ := firstFree_some h
  rw [List.getElem?_drop, Nat.add_sub_cancel' h1] at h2
  exact ⟨f, h2, h3⟩

theorem firstFree_take_some {free : Frame → Bool} {l : List Frame} {s i : Nat}
    (h : firstFree free (l.take s) 0 = some i) : ∃ f, l[i]? = some f ∧ free f = true := by
  obtain ⟨_, f, h2, h3⟩ := firstFree_some h
  rw [List.getElem?_take, Nat.sub_zero] at h2
  split at h2
  · exact ⟨f, h2, h3⟩
  · cases h2

structure Evicted (free : Frame → Bool) (c c' : Cache) (f : Frame) : Prop where
  free : free f = true
  perm : c.frames.Perm (f :: c'.frames)
  capacity : c'.capacity = c.capacity

structure EvictOom (D : Defects) (free : Frame → Bool) (c c' : Cache) : Prop where
  frames : c'.frames = c.frames
  capacity : c'.capacity = c.capacity
  nonempty : c.frames ≠ []
  pinned : D.cursorForwardOnly = false → ∀ f ∈ c.frames, free f = false

def EvictSpec (D : Defects) (free : Frame → Bool) (c : Cache) : Cache × EvictResult → Prop
  | (c', .empty) => c' = c ∧ c.frames = []
  | (c', .victim f) => Evicted free c c' f
  | (c', .oom) => EvictOom D free c c'

theorem evict_at (D : Defects) (free : Frame → Bool) (c : Cache) (i : Nat)
    (h : ∃ f, c.frames[i]? = some f ∧ free f = true) :
    EvictSpec D free c (match c.frames[i]? with
      | some f => ({ c with frames := swapRemoveAt c.frames i, cursor := i }, .victim f)
      | none => (c, .oom)) := by
  obtain ⟨f, h1, h2⟩ := h
  rw [h1]
  exact ⟨h2, swapRemoveAt_perm _ _ _ h1, rfl⟩

theorem evict_spec (D : Defects) (free : Frame → Bool) (c : Cache) : EvictSpec D free c (c.evict D free) := by
  unfold Cache.evict
  simp only []
  by_cases h0 : c.frames.length = 0
  · rw [if_pos h0]; exact ⟨rfl, List.eq_nil_of_length_eq_zero h0⟩
  rw [if_neg h0]
  have hne : c.frames ≠ [] := fun e => h0 (by rw [e]; rfl)
  cases hD : D.cursorForwardOnly with
  | true =>
    have hoom : D.cursorForwardOnly = false → ∀ f ∈ c.frames, free f = false := fun h => by rw [hD] at h; cases h
    rw [if_pos rfl]
    by_cases hc : c.cursor ≤ c.frames.length
    · rw [if_pos hc]
      cases hff : firstFree free (c.frames.drop c.cursor) c.cursor with
      | some i => exact evict_at D free c i (firstFree_drop_some hff)
      | none => exact ⟨rfl, rfl, hne, hoom⟩
    · rw [if_neg hc]; exact ⟨rfl, rfl, hne, hoom⟩
  | false =>
    rw [if_neg (fun h => nomatch h)]
    generalize (if c.cursor < c.frames.length then c.cursor else 0) = start
    cases hdrop : firstFree free (c.frames.drop start) start with
    | some i => exact evict_at D free c i (firstFree_drop_some hdrop)
    | none =>
      cases htake : firstFree free (c.frames.take start) 0 with
      | some i => exact evict_at D free c i (firstFree_take_some htake)
      | none =>
        refine ⟨rfl, rfl, hne, fun _ f hf => ?_⟩
        -- a frame lies before the starting point of the sweep or from it on: both parts were searched
        rw [← List.take_append_drop start c.frames] at hf
        exact (List.mem_append.mp hf).elim (firstFree_none htake f) (firstFree_none hdrop f)

theorem evict_cases (D : Defects) (free : Frame → Bool) (c : Cache) {P : Cache × EvictResult → Prop}
    (hempty : c.frames = [] → P (c, .empty)) (hvictim : ∀ c' f, Evicted free c c' f → P (c', .victim f))
    (hoom : ∀ c', EvictOom D free c c' → P (c', .oom)) : P (c.evict D free) := by
  have hs := evict_spec D free c
  cases he : c.evict D free with
  | mk c' r =>
    rw [he] at hs
    cases r with
    | empty => exact hs.1 ▸ hempty hs.2
    | victim f => exact hvictim c' f hs
    | oom => exact hoom c' hs

theorem get_some {c : Cache} {p : Nat} {f : Frame} (h : c.get p = some f) : f ∈ c.frames ∧ f.page = p := by
  unfold Cache.get at h
  exact ⟨List.mem_of_find?_eq_some h, by simpa using List.find?_some h⟩

theorem get_none_iff {c : Cache} {p : Nat} : c.get p = none ↔ ∀ g ∈ c.frames, g.page ≠ p := by
  unfold Cache.get
  simp only [List.find?_eq_none, decide_eq_true_eq]

structure Replaced (c c' : Cache) (f old : Frame) : Prop where
  cached : c.get f.page = some old
  capacity : c'.capacity = c.capacity
  frames : c'.frames = c.frames.map (fun g => if g.page = f.page then f else g)

structure Inserted (free : Frame → Bool) (c c' : Cache) (f : Frame) (ev : Option Frame) : Prop where
  fresh : c.get f.page = none
  capacity : c'.capacity = c.capacity
  free : ∀ v ∈ ev, free v = true
  bounded : c.frames.length ≤ max c.capacity 1 → c'.frames.length ≤ max c.capacity 1
  frames : ∃ rest, c.frames.Perm (ev.toList ++ rest) ∧ c'.frames = rest ++ [f]

structure InsertOom (D : Defects) (free : Frame → Bool) (c c' : Cache) (f : Frame) : Prop where
  fresh : c.get f.page = none
  full : c.capacity ≤ c.frames.length
  evict : EvictOom D free c c'

def InsertSpec (D : Defects) (free : Frame → Bool) (c : Cache) (f : Frame) : Cache × InsertResult → Prop
  | (c', .replaced old) => Replaced c c' f old
  | (c', .inserted ev) => Inserted free c c' f ev
  | (c', .oom) => InsertOom D free c c' f

theorem insert_spec (D : Defects) (free : Frame → Bool) (c : Cache) (f : Frame) :
    InsertSpec D free c f (c.insert D free f) := by
  fun_cases Cache.insert D free c f
  case case1 old hget => exact ⟨hget, rfl, rfl⟩
  case case2 hget hfull c' he => exact ⟨hget, hfull, (he ▸ evict_spec D free c : EvictSpec D free c (c', .oom))⟩
  case case3 hget hfull c' he =>
    obtain ⟨rfl, hnil⟩ := (he ▸ evict_spec D free c : EvictSpec D free c (c', .empty))
    exact ⟨hget, rfl, fun _ h => (by cases h), fun _ => by rw [hnil]; exact Nat.le_max_right _ _, _, .refl _, rfl⟩
  case case4 hget hfull c' v he =>
    have hv : Evicted free c c' v := (he ▸ evict_spec D free c : EvictSpec D free c (c', .victim v))
    -- one frame out, one in
    exact ⟨hget, hv.capacity, fun _ h => (by cases h; exact hv.free),
      fun hb => by rw [List.length_append]; exact Nat.le_trans (Nat.le_of_eq hv.perm.length_eq.symm) hb,
      _, hv.perm, rfl⟩
  case case5 hget hfull =>
    exact ⟨hget, rfl, fun _ h => (by cases h),
      fun _ => by rw [List.length_append]; exact Nat.le_trans (Nat.lt_of_not_le hfull) (Nat.le_max_left _ _),
      _, .refl _, rfl⟩

theorem insert_cases (D : Defects) (free : Frame → Bool) (c : Cache) (f : Frame) {P : Cache × InsertResult → Prop}
    (hrep : ∀ c' old, Replaced c c' f old → P (c', .replaced old))
    (hins : ∀ c' ev, Inserted free c c' f ev → P (c', .inserted ev))
    (hoom : ∀ c', InsertOom D free c c' f → P (c', .oom)) : P (c.insert D free f) := by
  have hs := insert_spec D free c f
  cases hi : c.insert D free f with
  | mk c' r =>
    rw [hi] at hs
    cases r with
    | replaced old => exact hrep c' old hs
    | inserted ev => exact hins c' ev hs
    | oom => exact hoom c' hs

theorem insert_capacity (D : Defects) (free : Frame → Bool) (c : Cache) (f : Frame) :
    (c.insert D free f).1.capacity = c.capacity :=
  insert_cases D free c f (P := fun r => r.1.capacity = c.capacity) (fun _ _ h => h.capacity) (fun _ _ h => h.capacity)
    (fun _ h => h.evict.capacity)

theorem insert_oom (D : Defects) (hD : D.cursorForwardOnly = false) (free : Frame → Bool) (c : Cache) (f : Frame)
    (h : (c.insert D free f).2 = .oom) :
    c.capacity ≤ c.frames.length ∧ c.frames ≠ [] ∧ ∀ g ∈ c.frames, free g = false := by
  revert h
  exact insert_cases D free c f (P := fun r => r.2 = .oom → _) (fun _ _ _ h => nomatch h) (fun _ _ _ h => nomatch h)
    (fun _ ho _ => ⟨ho.full, ho.evict.nonempty, ho.evict.pinned hD⟩)

def NoDup (c : Cache) : Prop := (c.frames.map (·.page)).Nodup
/-- a cache of capacity 0 still holds one frame (`insert` evicts only when it is non-empty) -/
def Bounded (c : Cache) : Prop := c.frames.length ≤ max c.capacity 1
def WF (c : Cache) : Prop := NoDup c ∧ Bounded c

theorem empty_wf (cap cur : Nat) : WF { capacity := cap, frames := [], cursor := cur } :=
  ⟨List.nodup_nil, Nat.zero_le _⟩

theorem WF.of_perm {c c' : Cache} {out : List Frame} (h : WF c) (hp : c.frames.Perm (out ++ c'.frames))
    (hcap : c'.capacity = c.capacity) : WF c' := by
  refine ⟨(nodup_map_split (·.page) hp h.1).2.1, ?_⟩
  have := hp.length_eq
  have := h.2
  unfold Bounded at *
  rw [List.length_append] at *
  omega

theorem WF.of_map {c : Cache} (h : WF c) (φ : Frame → Frame) (hφ : ∀ x, (φ x).page = x.page) :
    WF { c with frames := c.frames.map φ } := by
  refine ⟨?_, ?_⟩
  · show ((c.frames.map φ).map (·.page)).Nodup
    rw [map_key_of_keeps (·.page) φ hφ]; exact h.1
  · show (c.frames.map φ).length ≤ max c.capacity 1
    rw [List.length_map]; exact h.2

theorem insert_wf (D : Defects) (free : Frame → Bool) (c : Cache) (f : Frame) (h : WF c) :
    WF (c.insert D free f).1 := by
  refine insert_cases D free c f (P := fun r => WF r.1) (fun c' old hr => ?_) (fun c' ev hi => ?_) (fun c' ho => ?_)
  · have := h.of_map (fun g => if g.page = f.page then f else g) (fun x => by split <;> simp [*])
    exact ⟨by unfold NoDup; rw [hr.frames]; exact this.1, by unfold Bounded; rw [hr.frames, hr.capacity]; exact this.2⟩
  · obtain ⟨rest, hperm, hfr⟩ := hi.frames
    refine ⟨?_, ?_⟩
    · unfold NoDup
      rw [hfr]
      refine nodup_map_concat (·.page) (nodup_map_split (·.page) hperm h.1).2.1 (fun g hg => ?_)
      exact get_none_iff.mp hi.fresh g (hperm.mem_iff.mpr (List.mem_append_right _ hg))
    · unfold Bounded
      rw [hi.capacity]
      exact hi.bounded h.2
  · exact h.of_perm (out := []) (ho.evict.frames ▸ .refl _) ho.evict.capacity

theorem evict_wf (D : Defects) (free : Frame → Bool) (c : Cache) (h : WF c) : WF (c.evict D free).1 :=
  evict_cases D free c (P := fun r => WF r.1) (fun _ => h) (fun _ v hv => h.of_perm (out := [v]) hv.perm hv.capacity)
    (fun _ ho => h.of_perm (out := []) (ho.frames ▸ .refl _) ho.capacity)

theorem indexOfPage_eq_firstFree (p : Nat) (l : List Frame) (b : Nat) :
    indexOfPage p l b = firstFree (fun f => f.page = p) l b := by
  induction l generalizing b with
  | nil => rfl
  | cons x xs ih => simp only [indexOfPage, firstFree, decide_eq_true_eq, ih]

theorem remove_wf (c : Cache) (p : Nat) (h : WF c) : WF (c.remove p).1 := by
  unfold Cache.remove
  split
  · exact h
  · rename_i i hi
    rw [indexOfPage_eq_firstFree] at hi
    -- `c.frames.drop 0` is `c.frames` by computation, so the search from position 0 is a search "from `s` on"
    obtain ⟨f, hf, _⟩ := firstFree_drop_some (s := 0) hi
    exact h.of_perm (out := [f]) (swapRemoveAt_perm c.frames i f hf) rfl

theorem lookup_cons_eq (l : List (Nat × Nat)) (p v q : Nat) :
    List.lookup q ((p, v) :: l) = if q = p then some v else List.lookup q l := by
  rw [List.lookup_cons]
  by_cases h : q = p
  · rw [beq_iff_eq.mpr h, if_pos h]
  · rw [beq_eq_false_iff_ne.mpr h, if_neg h]

@[simp] theorem Disk.read_write (d : Disk) (p v q : Nat) :
    (d.write p v).read q = if q = p then v else d.read q := by
  unfold Disk.read Disk.write
  rw [lookup_cons_eq]
  split <;> rfl

@[simp] theorem Disk.len_write (d : Disk) (p v : Nat) : (d.write p v).len = max d.len (p + 1) := rfl

theorem writeBack_len_ge (d : Disk) (fs : List Frame) : d.len ≤ (writeBack d fs).len := by
  induction fs generalizing d with
  | nil => exact Nat.le_refl _
  | cons x xs ih =>
    refine Nat.le_trans ?_ (ih _)
    split
    · exact Nat.le_max_left _ _
    · exact Nat.le_refl _

theorem writeBack_len_le (d : Disk) (fs : List Frame) (T : Nat) (hd : d.len ≤ T) (h : ∀ f ∈ fs, f.page < T) :
    (writeBack d fs).len ≤ T := by
  induction fs generalizing d with
  | nil => exact hd
  | cons x xs ih =>
    apply ih _ _ (fun f hf => h f (List.mem_cons_of_mem _ hf))
    split
    · exact Nat.max_le.mpr ⟨hd, h x List.mem_cons_self⟩
    · exact hd

theorem writeBack_other (d : Disk) (fs : List Frame) (p v : Nat) (h : ∀ f ∈ fs, f.dirty = true → f.page ≠ p)
    (hp : p < d.len ∧ d.read p = v) : p < (writeBack d fs).len ∧ (writeBack d fs).read p = v := by
  induction fs generalizing d with
  | nil => exact hp
  | cons x xs ih =>
    apply ih _ (fun f hf => h f (List.mem_cons_of_mem _ hf))
    split
    · rename_i hd
      rw [Disk.read_write, if_neg (Ne.symm (h x List.mem_cons_self hd))]
      exact ⟨Nat.lt_of_lt_of_le hp.1 (Nat.le_max_left _ _), hp.2⟩
    · exact hp

theorem writeBack_mem (d : Disk) (fs : List Frame) (hnd : (fs.map (·.page)).Nodup) (g : Frame) (hg : g ∈ fs)
    (hc : g.dirty = false → g.page < d.len ∧ d.read g.page = g.val) :
    g.page < (writeBack d fs).len ∧ (writeBack d fs).read g.page = g.val := by
  induction fs generalizing d with
  | nil => cases hg
  | cons x xs ih =>
    rw [List.map_cons, List.nodup_cons] at hnd
    rcases List.mem_cons.mp hg with rfl | hg'
    · apply writeBack_other _ xs _ _ (fun f hf _ e => hnd.1 (List.mem_map.mpr ⟨f, hf, e⟩))
      cases hd : g.dirty with
      | true => exact ⟨by rw [if_pos rfl, Disk.len_write]; omega, by rw [if_pos rfl, Disk.read_write, if_pos rfl]⟩
      | false => exact hc hd
    · apply ih _ hnd.2 hg'
      intro hd
      have hne : g.page ≠ x.page := fun e => hnd.1 (e ▸ List.mem_map_of_mem hg')
      split
      · rw [Disk.read_write, if_neg hne]
        exact ⟨Nat.lt_of_lt_of_le (hc hd).1 (Nat.le_max_left _ _), (hc hd).2⟩
      · exact hc hd

theorem free_eq_false_iff {m : Mem} {f : Frame} : m.free f = false ↔ ∃ h ∈ m.handles, h.fid = f.fid := by
  unfold Mem.free
  simp only [List.all_eq_false, bne_iff_ne, ne_eq, Decidable.not_not]

theorem park_same (m : Mem) (f : Frame) :
    (m.park f).cache = m.cache ∧ (m.park f).handles = m.handles ∧ (m.park f).nextFid = m.nextFid ∧
    (m.park f).nextHid = m.nextHid := by
  unfold Mem.park
  split <;> exact ⟨rfl, rfl, rfl, rfl⟩

theorem parkAll_same (m : Mem) (fs : List Frame) :
    (m.parkAll fs).cache = m.cache ∧ (m.parkAll fs).handles = m.handles ∧ (m.parkAll fs).nextFid = m.nextFid ∧
    (m.parkAll fs).nextHid = m.nextHid := by
  induction fs generalizing m with
  | nil => exact ⟨rfl, rfl, rfl, rfl⟩
  | cons x xs ih =>
    obtain ⟨a, b, c, d⟩ := ih (m.park x)
    obtain ⟨a', b', c', d'⟩ := park_same m x
    exact ⟨a.trans a', b.trans b', c.trans c', d.trans d'⟩

structure Same (s s' : Pager) : Prop where
  total : s'.total = s.total
  handles : s'.mem.handles = s.mem.handles
  nextHid : s'.mem.nextHid = s.mem.nextHid
  cfg : s'.cfgCache = s.cfgCache
  lost : s'.lost = s.lost

theorem cacheFrame_spec (D : Defects) (s : Pager) (f : Frame) :
    Same s (s.cacheFrame D f).1 ∧ (s.cacheFrame D f).1.mem.nextFid = s.mem.nextFid ∧
    (s.cacheFrame D f).1.mem.cache = (s.mem.cache.insert D s.mem.free f).1 ∧
    ((s.cacheFrame D f).2 = false ↔ (s.mem.cache.insert D s.mem.free f).2 = .oom) ∧
    ∀ ev, (s.mem.cache.insert D s.mem.free f).2 = .inserted ev →
      (s.cacheFrame D f).1.disk = writeBack s.disk ev.toList := by
  unfold Pager.cacheFrame
  cases s.mem.cache.insert D s.mem.free f with
  | mk c r =>
    cases r with
    | oom => exact ⟨⟨rfl, rfl, rfl, rfl, rfl⟩, rfl, rfl, ⟨fun _ => rfl, fun _ => rfl⟩, fun _ h => (by cases h)⟩
    | replaced old =>
      obtain ⟨h1, h2, h3, h4⟩ := park_same { s.mem with cache := c } old
      exact ⟨⟨rfl, h2, h4, rfl, rfl⟩, h3, h1, ⟨fun h => (by cases h), fun h => (by cases h)⟩, fun _ h => (by cases h)⟩
    | inserted ev =>
      cases ev with
      | none =>
        exact ⟨⟨rfl, rfl, rfl, rfl, rfl⟩, rfl, rfl, ⟨fun h => (by cases h), fun h => (by cases h)⟩,
          fun _ h => (by cases h; rfl)⟩
      | some v =>
        have hwb : writeBack s.disk [v] = if v.dirty = true then s.disk.write v.page v.val else s.disk := rfl
        dsimp only
        by_cases hd : v.dirty = true
        · rw [if_pos hd]
          exact ⟨⟨rfl, rfl, rfl, rfl, rfl⟩, rfl, rfl, ⟨fun h => (by cases h), fun h => (by cases h)⟩,
            fun _ h => (by cases h; exact (hwb.trans (if_pos hd)).symm)⟩
        · rw [if_neg hd]
          exact ⟨⟨rfl, rfl, rfl, rfl, rfl⟩, rfl, rfl, ⟨fun h => (by cases h), fun h => (by cases h)⟩,
            fun _ h => (by cases h; exact (hwb.trans (if_neg hd)).symm)⟩

def AllPinned (m : Mem) : Prop :=
  m.cache.capacity ≤ m.cache.frames.length ∧ m.cache.frames ≠ [] ∧ ∀ f ∈ m.cache.frames, m.free f = false

theorem cacheFrame_false (D : Defects) (hD : D.cursorForwardOnly = false) (s : Pager) (f : Frame)
    (h : (s.cacheFrame D f).2 = false) : AllPinned s.mem :=
  insert_oom D hD s.mem.free s.mem.cache f ((cacheFrame_spec D s f).2.2.2.1.mp h)

def allocState (s : Pager) : Pager :=
  { s with total := s.total + 1, mem := { s.mem with nextFid := s.mem.nextFid + 1 } }
def allocFrame (s : Pager) : Frame := { page := s.total, fid := s.mem.nextFid, val := 0, dirty := true }

theorem step_alloc_eq (D : Defects) (s : Pager) :
    s.step D .alloc = match (allocState s).cacheFrame D (allocFrame s) with
      | (s', true) => (s', .page s.total)
      | (s', false) => ({ s' with lost := s.total :: s'.lost }, .oom) := rfl

theorem readPage_oom (D : Defects) (hD : D.cursorForwardOnly = false) (s : Pager) (p : Nat)
    (h : (s.readPage D p).2 = .oom) : AllPinned s.mem := by
  revert h
  fun_cases Pager.readPage D s p
  case case5 f s1 s' hcf => exact fun _ => cacheFrame_false D hD s1 f (congrArg Prod.snd hcf)
  -- the other four ways through `read_page` do not answer out-of-memory
  all_goals exact fun h => nomatch h

/-- invariant of the pager state w.r.t. the flat store `σ`; `x` = a page that is allowed to be neither cached nor on
    disk (the page being brought in) -/
structure InvX (s : Pager) (σ : Nat → Option Nat) (x : Option Nat) : Prop where
  nodup : (s.mem.cache.frames.map (·.page)).Nodup
  fids : (s.mem.cache.frames.map (·.fid)).Nodup
  fidLt : ∀ f ∈ s.mem.cache.frames, f.fid < s.mem.nextFid
  cached : ∀ f ∈ s.mem.cache.frames, σ f.page = some f.val
  clean : ∀ f ∈ s.mem.cache.frames, f.dirty = false → f.page < s.disk.len ∧ s.disk.read f.page = f.val
  uncached : ∀ p v, σ p = some v → some p ≠ x → (∀ f ∈ s.mem.cache.frames, f.page ≠ p) →
    p < s.disk.len ∧ s.disk.read p = v
  dom : ∀ p, (σ p).isSome = true ↔ (1 ≤ p ∧ p < s.total)
  diskLen : s.disk.len ≤ s.total
  handles : ∀ h ∈ s.mem.handles, ∃ f ∈ s.mem.cache.frames, f.fid = h.fid ∧ f.page = h.page
  lost : s.lost = []
  totalPos : 1 ≤ s.total

abbrev Inv (s : Pager) (σ : Nat → Option Nat) : Prop := InvX s σ none

theorem page_lt_total {s σ x} (hI : InvX s σ x) {g : Frame} (hg : g ∈ s.mem.cache.frames) :
    1 ≤ g.page ∧ g.page < s.total :=
  (hI.dom g.page).mp (by rw [hI.cached g hg]; rfl)

/-- With `out = []` this says which parts of the state the invariant reads. -/
theorem InvX.evict {s s' : Pager} {σ : Nat → Option Nat} {x : Option Nat} (hI : InvX s σ x) {out : List Frame}
    (hperm : s.mem.cache.frames.Perm (out ++ s'.mem.cache.frames)) (hdisk : s'.disk = writeBack s.disk out)
    (hfid : s.mem.nextFid ≤ s'.mem.nextFid) (htot : s'.total = s.total) (hlost : s'.lost = s.lost)
    (hh : ∀ h ∈ s'.mem.handles, h ∈ s.mem.handles ∧ ∀ g ∈ out, g.fid ≠ h.fid) : InvX s' σ x := by
  have hpages := nodup_map_split (·.page) hperm hI.nodup
  have hkept : ∀ g ∈ s'.mem.cache.frames, g ∈ s.mem.cache.frames :=
    fun g hg => hperm.mem_iff.mpr (List.mem_append_right _ hg)
  have hout : ∀ g ∈ out, g ∈ s.mem.cache.frames := fun g hg => hperm.mem_iff.mpr (List.mem_append_left _ hg)
  constructor
  · exact hpages.2.1
  · exact (nodup_map_split (·.fid) hperm hI.fids).2.1
  · exact fun g hg => Nat.lt_of_lt_of_le (hI.fidLt g (hkept g hg)) hfid
  · exact fun g hg => hI.cached g (hkept g hg)
  · intro g hg hd
    rw [hdisk]
    exact writeBack_other _ _ _ _ (fun f hf _ => hpages.2.2 f hf g hg) (hI.clean g (hkept g hg) hd)
  · intro p v hp hx hn
    rw [hdisk]
    by_cases hc : ∃ g ∈ out, g.page = p
    · -- the page was in a frame that went: the file has it now, or had it already
      obtain ⟨g, hg, rfl⟩ := hc
      have hv : v = g.val := Option.some.inj (hp.symm.trans (hI.cached g (hout g hg)))
      exact hv ▸ writeBack_mem _ _ hpages.1 g hg (hI.clean g (hout g hg))
    · have hn' : ∀ f ∈ s.mem.cache.frames, f.page ≠ p := fun f hf e =>
        (List.mem_append.mp (hperm.mem_iff.mp hf)).elim (fun h => hc ⟨f, h, e⟩) (fun h => hn f h e)
      exact writeBack_other _ _ _ _ (fun f hf _ e => hc ⟨f, hf, e⟩) (hI.uncached p v hp hx hn')
  · exact fun p => htot ▸ hI.dom p
  · rw [hdisk, htot]
    exact writeBack_len_le _ _ _ hI.diskLen (fun f hf => (page_lt_total hI (hout f hf)).2)
  · intro h hmem
    obtain ⟨g, hg, h1, h2⟩ := hI.handles h (hh h hmem).1
    refine ⟨g, (List.mem_append.mp (hperm.mem_iff.mp hg)).resolve_left (fun ho => (hh h hmem).2 g ho h1), h1, h2⟩
  · exact hlost ▸ hI.lost
  · exact htot ▸ hI.totalPos

theorem InvX.add {s s' : Pager} {σ : Nat → Option Nat} {f : Frame} (hI : InvX s σ (some f.page))
    (hfr : s'.mem.cache.frames = s.mem.cache.frames ++ [f]) (hdisk : s'.disk = s.disk)
    (hfid : s'.mem.nextFid = s.mem.nextFid) (htot : s'.total = s.total) (hlost : s'.lost = s.lost)
    (hh : s'.mem.handles = s.mem.handles)
    (hnc : ∀ g ∈ s.mem.cache.frames, g.page ≠ f.page) (hnew : f.fid < s.mem.nextFid)
    (hfresh : ∀ g ∈ s.mem.cache.frames, g.fid ≠ f.fid) (hσ : σ f.page = some f.val)
    (hclean : f.dirty = false → f.page < s.disk.len ∧ s.disk.read f.page = f.val) : Inv s' σ := by
  constructor
  · rw [hfr]; exact nodup_map_concat (·.page) hI.nodup hnc
  · rw [hfr]; exact nodup_map_concat (·.fid) hI.fids hfresh
  · rw [hfr, hfid]; exact List.forall_mem_append.mpr ⟨hI.fidLt, List.forall_mem_singleton.mpr hnew⟩
  · rw [hfr]; exact List.forall_mem_append.mpr ⟨hI.cached, List.forall_mem_singleton.mpr hσ⟩
  · rw [hfr, hdisk]; exact List.forall_mem_append.mpr ⟨hI.clean, List.forall_mem_singleton.mpr hclean⟩
  · intro p v hp _ hn
    rw [hfr] at hn
    obtain ⟨hn1, hn2⟩ := List.forall_mem_append.mp hn
    rw [hdisk]
    exact hI.uncached p v hp (fun e => List.forall_mem_singleton.mp hn2 (Option.some.inj e).symm) hn1
  · exact fun p => htot ▸ hI.dom p
  · rw [hdisk, htot]; exact hI.diskLen
  · intro h hmem
    obtain ⟨g, hg, hgh⟩ := hI.handles h (hh ▸ hmem)
    exact ⟨g, hfr ▸ List.mem_append_left _ hg, hgh⟩
  · exact hlost ▸ hI.lost
  · exact htot ▸ hI.totalPos

theorem cacheFrame_inv (D : Defects) (s : Pager) (σ : Nat → Option Nat) (f : Frame)
    (hI : InvX s σ (some f.page))
    (hnc : ∀ g ∈ s.mem.cache.frames, g.page ≠ f.page)
    (hfid : f.fid < s.mem.nextFid) (hfresh : ∀ g ∈ s.mem.cache.frames, g.fid ≠ f.fid)
    (hσ : σ f.page = some f.val)
    (hclean : f.dirty = false → f.page < s.disk.len ∧ s.disk.read f.page = f.val)
    (s' : Pager) (hs : s.cacheFrame D f = (s', true)) :
    Inv s' σ ∧ f ∈ s'.mem.cache.frames ∧ Same s s' := by
  obtain ⟨hsame, hnext, hcache, hoom, hdisk⟩ := cacheFrame_spec D s f
  rw [hs] at hsame hnext hcache hoom hdisk
  revert hcache hoom hdisk
  refine insert_cases D s.mem.free s.mem.cache f (P := fun r => s'.mem.cache = r.1 → (true = false ↔ r.2 = .oom) →
    (∀ ev, r.2 = .inserted ev → s'.disk = writeBack s.disk ev.toList) → _) ?_ ?_ ?_
  · exact fun _ old hr _ _ _ => absurd (hr.cached.symm.trans (get_none_iff.mpr hnc)) (fun h => nomatch h)
  · intro c ev hi hcache _ hdisk
    obtain ⟨rest, hperm, hfr⟩ := hi.frames
    have hfr' : s'.mem.cache.frames = rest ++ [f] := by rw [hcache]; exact hfr
    -- first the evicted frame leaves (a frame that `insert` found free has no handle), then `f` comes in
    let mid : Pager := { s' with mem := { s'.mem with cache := { s'.mem.cache with frames := rest } } }
    have hmid : InvX mid σ (some f.page) := by
      refine hI.evict (s' := mid) (out := ev.toList) hperm (hdisk ev rfl) (Nat.le_of_eq hnext.symm) hsame.total
        hsame.lost (fun h hh => ?_)
      have hh' : h ∈ s.mem.handles := hsame.handles ▸ hh
      refine ⟨hh', fun g hg e => ?_⟩
      have := free_eq_false_iff.mpr ⟨h, hh', e.symm⟩
      rw [hi.free g (Option.mem_toList.mp hg)] at this
      cases this
    have hsub : ∀ g ∈ rest, g ∈ s.mem.cache.frames := fun g hg => hperm.mem_iff.mpr (List.mem_append_right _ hg)
    refine ⟨hmid.add hfr' rfl rfl rfl rfl rfl (fun g hg => hnc g (hsub g hg)) (hnext ▸ hfid)
      (fun g hg => hfresh g (hsub g hg)) hσ (fun hd => ?_), hfr' ▸ List.mem_append_right _ (List.mem_singleton_self f), hsame⟩
    show f.page < s'.disk.len ∧ s'.disk.read f.page = f.val
    rw [hdisk ev rfl]
    exact writeBack_other _ _ _ _ (fun g hg _ => hnc g (hperm.mem_iff.mpr (List.mem_append_left _ hg))) (hclean hd)
  · exact fun _ _ _ hoom _ => absurd (hoom.mpr rfl) (fun h => nomatch h)

structure ReadOk (s s' : Pager) (σ : Nat → Option Nat) (p : Nat) (f : Frame) : Prop where
  inv : Inv s' σ
  mem : f ∈ s'.mem.cache.frames
  page : f.page = p
  same : Same s s'

def ReadSpec (s : Pager) (σ : Nat → Option Nat) (p : Nat) : Pager × ReadResult → Prop
  | (s', .frame f) => ReadOk s s' σ p f
  | (s', .io) => s' = s ∧ σ p = none
  | (_, .oom) => True

theorem readPage_inv (D : Defects) (s : Pager) (σ : Nat → Option Nat) (p : Nat) (hI : Inv s σ) :
    ReadSpec s σ p (s.readPage D p) := by
  have hnone : ∀ q, ¬(1 ≤ q ∧ q < s.total) → σ q = none := fun q hq =>
    Option.not_isSome_iff_eq_none.mp (fun h => hq ((hI.dom q).mp h))
  fun_cases Pager.readPage D s p
  case case1 hp0 => exact ⟨rfl, hnone p (fun h => absurd (hp0 ▸ h.1) (by decide))⟩
  case case2 f hget => exact ⟨hI, (get_some hget).1, (get_some hget).2, rfl, rfl, rfl, rfl, rfl⟩
  case case3 hget hlen =>
    -- an allocated page that is not cached lies within the file
    refine ⟨rfl, ?_⟩
    cases hσ : σ p with
    | none => rfl
    | some v => exact absurd (hI.uncached p v hσ (fun e => nomatch e) (get_none_iff.mp hget)).1 (Nat.not_lt.mpr hlen)
  case case4 hp0 hget hlen f s1 s' hcf =>
    have hnc := get_none_iff.mp hget
    obtain ⟨v, hv⟩ := Option.isSome_iff_exists.mp
      ((hI.dom p).mpr ⟨Nat.pos_of_ne_zero hp0, Nat.lt_of_lt_of_le (Nat.lt_of_not_le hlen) hI.diskLen⟩)
    have hdisk := hI.uncached p v hv (fun e => nomatch e) hnc
    have hI1 : InvX s1 σ (some p) :=
      { hI with
        uncached := fun q v hq _ hn => hI.uncached q v hq (fun e => nomatch e) hn
        fidLt := fun g hg => Nat.lt_succ_of_lt (hI.fidLt g hg) }
    obtain ⟨h1, h2, h3⟩ := cacheFrame_inv D s1 σ f hI1 hnc (Nat.lt_succ_self _)
      (fun g hg => Nat.ne_of_lt (hI.fidLt g hg)) (hv.trans (congrArg some hdisk.2.symm))
      (fun _ => ⟨Nat.lt_of_not_le hlen, rfl⟩) s' hcf
    -- `s1` is `s` with the next buffer identity handed out: none of the fields `Same` speaks of
    exact ⟨h1, h2, rfl, h3.total, h3.handles, h3.nextHid, h3.cfg, h3.lost⟩
  case case5 => trivial

theorem flush_inv (D : Defects) (s : Pager) (σ : Nat → Option Nat) (hI : Inv s σ) (hh : s.mem.handles = []) :
    Inv (s.flush D) σ ∧ (s.flush D).mem.cache.frames = [] ∧ Same s (s.flush D) := by
  obtain ⟨hc, hhd, hfid, hhid⟩ :=
    parkAll_same ({ s.mem with cache := (s.mem.cache.clear D).1 }) (s.mem.cache.clear D).2
  have hfr : (s.flush D).mem.cache.frames = [] := congrArg Cache.frames hc
  refine ⟨hI.evict (s' := s.flush D) (out := s.mem.cache.frames) (by rw [hfr, List.append_nil]) rfl
    (Nat.le_of_eq hfid.symm) rfl rfl (fun h hmem => ?_), hfr, ⟨rfl, hhd, hhid, rfl, rfl⟩⟩
  rw [show (s.flush D).mem.handles = s.mem.handles from hhd, hh] at hmem
  cases hmem
/-- A flat page store: the last value written to every allocated page, the page counter, and which page each
    outstanding handle refers to. No cache, no disk, no capacity. -/
structure Spec where
  vals : List (Nat × Nat) := []
  total : Nat := 1
  pins : List (Nat × Nat) := []
  nextHid : Nat := 0
deriving Repr

def Spec.get (sp : Spec) (p : Nat) : Option Nat := sp.vals.lookup p
def Spec.put (sp : Spec) (p v : Nat) : Spec := { sp with vals := (p, v) :: sp.vals }
def Spec.pinOf (sp : Spec) (k : Nat) : Option (Nat × Nat) := sp.pins.find? (fun q => q.1 = k)

/-- One operation on the flat store (what every operation *means*, given that it did not run out of memory).
    `disk` looks at the file, which the flat store does not have: its answer here is a placeholder. -/
def Spec.step (sp : Spec) : POp → Spec × Out
  | .alloc => ({ sp.put sp.total 0 with total := sp.total + 1 }, .page sp.total)
  | .read p => match sp.get p with
    | some v => (sp, .val v)
    | none => (sp, .io)
  | .write p v => match sp.get p with
    | some _ => (sp.put p v, .ok)
    | none => (sp, .io)
  | .pin p => match sp.get p with
    | some _ => ({ sp with pins := sp.pins ++ [(sp.nextHid, p)], nextHid := sp.nextHid + 1 }, .handle sp.nextHid)
    | none => (sp, .io)
  | .unpin k => match sp.pinOf k with
    | some _ => ({ sp with pins := sp.pins.filter (fun q => q.1 != k) }, .ok)
    | none => (sp, .nohandle)
  | .hread k => match sp.pinOf k with
    | some q => (sp, match sp.get q.2 with | some v => .val v | none => .nohandle)
    | none => (sp, .nohandle)
  | .hwrite k v => match sp.pinOf k with
    | some q => (sp.put q.2 v, .ok)
    | none => (sp, .nohandle)
  | .flush => (sp, .ok)
  | .reopen => (sp, .ok)
  | .disk _ => (sp, .eof)

def Spec.run : Spec → List POp → Spec × List Out
  | sp, [] => (sp, [])
  | sp, op :: ops =>
    let (sp', o) := sp.step op
    let (sp'', os) := Spec.run sp' ops
    (sp'', o :: os)

def POp.isCheckpoint : POp → Bool
  | .flush | .reopen => true
  | _ => false

/-- checkpoints (and re-opens) happen only while no frame is referenced from outside the cache -/
def Spec.admissible : Spec → List POp → Bool
  | _, [] => true
  | sp, op :: ops => (!op.isCheckpoint || sp.pins.isEmpty) && Spec.admissible (sp.step op).1 ops

theorem Spec.get_put (sp : Spec) (p v : Nat) : (sp.put p v).get = fun q => if q = p then some v else sp.get q :=
  funext (lookup_cons_eq sp.vals p v)

structure Coupled (s : Pager) (sp : Spec) : Prop where
  inv : Inv s sp.get
  total : sp.total = s.total
  pins : sp.pins = s.mem.handles.map (fun h => (h.hid, h.page))
  nextHid : sp.nextHid = s.mem.nextHid

/-- `read`, `write` and `pin` have one shape: refuse a page whose allocation failed, `read_page`, act on the frame. -/
def afterRead (D : Defects) (s : Pager) (p : Nat) (k : Pager → Frame → Pager × Out) : Pager × Out :=
  if s.lost.contains p then (s, .lost) else
  match s.readPage D p with
  | (s', .frame f) => k s' f
  | (s', .oom) => (s', .oom)
  | (s', .io) => (s', .io)

def withHandle (s : Pager) (k : Nat) (kp : Handle → Pager × Out) : Pager × Out :=
  match s.mem.handle? k with
  | some h => kp h
  | none => (s, .nohandle)

theorem step_read_eq (D : Defects) (s : Pager) (p : Nat) :
    s.step D (.read p) = afterRead D s p (fun s' f => (s', .val f.val)) := rfl

theorem step_write_eq (D : Defects) (s : Pager) (p v : Nat) :
    s.step D (.write p v) =
      afterRead D s p (fun s' f => ({ s' with mem := s'.mem.updateFrame f.fid (Frame.setVal v) }, .ok)) := rfl

theorem step_pin_eq (D : Defects) (s : Pager) (p : Nat) :
    s.step D (.pin p) =
      afterRead D s p (fun s' f => ({ s' with mem := (s'.mem.addHandle f).1 }, .handle (s'.mem.addHandle f).2)) := rfl

theorem step_unpin_eq (D : Defects) (s : Pager) (k : Nat) :
    s.step D (.unpin k) = withHandle s k (fun _ => ({ s with mem := s.mem.dropHandle k }, .ok)) := rfl

theorem step_hread_eq (D : Defects) (s : Pager) (k : Nat) :
    s.step D (.hread k) = withHandle s k (fun h =>
      match s.mem.frameOf h.fid with
      | some f => (s, .val f.val)
      | none => (s, .nohandle)) := rfl

theorem step_hwrite_eq (D : Defects) (s : Pager) (k v : Nat) :
    s.step D (.hwrite k v) =
      withHandle s k (fun h => ({ s with mem := s.mem.updateFrame h.fid (Frame.setVal v) }, .ok)) := rfl

theorem step_disk (D : Defects) (s : Pager) (p : Nat) :
    (s.step D (.disk p)).1 = s ∧ (s.step D (.disk p)).2 ≠ .oom := by
  simp only [Pager.step]
  split
  · exact ⟨rfl, fun h => nomatch h⟩
  · split <;> exact ⟨rfl, fun h => nomatch h⟩

def POp.isDisk : POp → Bool
  | .disk _ => true
  | _ => false

def Agree (r : Pager × Out) (rs : Spec × Out) : Prop := Coupled r.1 rs.1 ∧ r.2 = rs.2

/-- The answer to a raw look at the file is exempt: the flat store has no file and answers it with a placeholder (see
    `Spec.step`). -/
def StepOk (s : Pager) (sp : Spec) (D : Defects) (op : POp) : Prop :=
  Coupled (s.step D op).1 (sp.step op).1 ∧ (op.isDisk = false → (s.step D op).2 = (sp.step op).2)

theorem StepOk.of_agree {s sp D op} (h : Agree (s.step D op) (sp.step op)) : StepOk s sp D op :=
  ⟨h.1, fun _ => h.2⟩

theorem Coupled.of_same {s s' : Pager} {sp : Spec} (hC : Coupled s sp) (hI : Inv s' sp.get) (h : Same s s') :
    Coupled s' sp :=
  ⟨hI, hC.total.trans h.total.symm, h.handles ▸ hC.pins, hC.nextHid.trans h.nextHid.symm⟩

theorem step_alloc (D : Defects) (s : Pager) (sp : Spec) (hC : Coupled s sp) (hoom : (s.step D .alloc).2 ≠ .oom) :
    Agree (s.step D .alloc) (sp.step .alloc) := by
  have hI := hC.inv
  have hσ' : (sp.put sp.total 0).get = fun q => if q = s.total then some 0 else sp.get q := by
    rw [Spec.get_put, hC.total]
  have hlt : ∀ g ∈ s.mem.cache.frames, g.page ≠ s.total := fun g hg => Nat.ne_of_lt (page_lt_total hI hg).2
  -- the store gains page `total`, which is not cached and not in the file yet
  have hI1 : InvX (allocState s) (sp.put sp.total 0).get (some s.total) := by
    rw [hσ']
    exact { hI with
      fidLt := fun g hg => Nat.lt_succ_of_lt (hI.fidLt g hg)
      cached := fun g hg => (if_neg (hlt g hg)).trans (hI.cached g hg)
      uncached := fun p v hp hx hn =>
        hI.uncached p v ((if_neg (fun e => hx (congrArg some e))).symm.trans hp) (fun e => nomatch e) hn
      dom := fun p => by
        show (if p = s.total then some 0 else sp.get p).isSome = true ↔ 1 ≤ p ∧ p < s.total + 1
        by_cases hpt : p = s.total
        · rw [if_pos hpt, hpt]; exact ⟨fun _ => ⟨hI.totalPos, Nat.lt_succ_self _⟩, fun _ => rfl⟩
        · rw [if_neg hpt, hI.dom p]; omega
      diskLen := Nat.le_succ_of_le hI.diskLen
      totalPos := Nat.le_succ_of_le hI.totalPos }
  rw [step_alloc_eq] at hoom ⊢
  cases hcf : (allocState s).cacheFrame D (allocFrame s) with
  | mk s' b =>
    rw [hcf] at hoom
    cases b with
    | false => exact absurd rfl hoom
    | true =>
      obtain ⟨h1, _, h3⟩ := cacheFrame_inv D (allocState s) _ (allocFrame s) hI1 hlt (Nat.lt_succ_self _)
        (fun g hg => Nat.ne_of_lt (hI.fidLt g hg)) (by rw [hσ']; exact if_pos rfl) (fun h => nomatch h) s' hcf
      exact ⟨⟨h1, (congrArg (· + 1) hC.total).trans h3.total.symm, h3.handles ▸ hC.pins,
        hC.nextHid.trans h3.nextHid.symm⟩, congrArg Out.page hC.total.symm⟩

theorem afterRead_coupled (D : Defects) (s : Pager) (sp : Spec) (p : Nat) (k : Pager → Frame → Pager × Out)
    (ks : Nat → Spec × Out) (hC : Coupled s sp) (hoom : (afterRead D s p k).2 ≠ .oom)
    (hk : ∀ s' f, Coupled s' sp → f ∈ s'.mem.cache.frames → f.page = p → Agree (k s' f) (ks f.val)) :
    Agree (afterRead D s p k) (match sp.get p with | some v => ks v | none => (sp, .io)) := by
  have hspec := readPage_inv D s sp.get p hC.inv
  revert hoom
  fun_cases afterRead D s p k
  case case1 hl => rw [hC.inv.lost] at hl; cases hl
  case case2 s' f hr =>
    rw [hr] at hspec
    rw [show sp.get p = some f.val from hspec.page ▸ hspec.inv.cached f hspec.mem]
    exact fun _ => hk s' f (hC.of_same hspec.inv hspec.same) hspec.mem hspec.page
  case case3 => exact fun hoom => absurd rfl hoom
  case case4 s' hr =>
    rw [hr] at hspec
    rw [hspec.2, hspec.1]
    exact fun _ => ⟨hC, rfl⟩

theorem Coupled.pinOf {s sp} (hC : Coupled s sp) (k : Nat) :
    sp.pinOf k = (s.mem.handle? k).map (fun h => (h.hid, h.page)) := by
  unfold Spec.pinOf Mem.handle?
  rw [hC.pins, List.find?_map]
  rfl

theorem frameOf_cached {s σ} (hI : Inv s σ) {h : Handle} (hh : h ∈ s.mem.handles) :
    ∃ f ∈ s.mem.cache.frames, f.fid = h.fid ∧ f.page = h.page ∧ s.mem.frameOf h.fid = some f := by
  obtain ⟨f, hf, h1, h2⟩ := hI.handles h hh
  refine ⟨f, hf, h1, h2, ?_⟩
  unfold Mem.frameOf
  cases hfind : s.mem.cache.frames.find? (fun g => g.fid = h.fid) with
  | none => exact absurd (decide_eq_true h1) (List.find?_eq_none.mp hfind f hf)
  | some f' =>
    have h3 : f'.fid = h.fid := by simpa using List.find?_some hfind
    rw [eq_of_key_eq (·.fid) hI.fids (List.mem_of_find?_eq_some hfind) hf (h3.trans h1.symm)]

theorem withHandle_coupled (s : Pager) (sp : Spec) (k : Nat) (kp : Handle → Pager × Out)
    (ks : Nat × Nat → Spec × Out) (hC : Coupled s sp)
    (hk : ∀ h ∈ s.mem.handles, Agree (kp h) (ks (h.hid, h.page))) :
    Agree (withHandle s k kp) (match sp.pinOf k with | some q => ks q | none => (sp, .nohandle)) := by
  unfold withHandle
  rw [hC.pinOf k]
  -- the flat store's pin list is the image of the handle list, so the two lookups succeed or fail together
  cases hh : s.mem.handle? k with
  | none => exact ⟨hC, rfl⟩
  | some h => exact hk h (List.mem_of_find?_eq_some hh)

theorem Coupled.write {s : Pager} {sp : Spec} (hC : Coupled s sp) {f : Frame} (hf : f ∈ s.mem.cache.frames) (v : Nat) :
    Coupled { s with mem := s.mem.updateFrame f.fid (Frame.setVal v) } (sp.put f.page v) := by
  refine ⟨?_, hC.total, hC.pins, hC.nextHid⟩
  rw [Spec.get_put]
  let φ : Frame → Frame := fun x => if x.fid = f.fid then Frame.setVal v x else x
  have hfr : ({ s with mem := s.mem.updateFrame f.fid (Frame.setVal v) } : Pager).mem.cache.frames =
      s.mem.cache.frames.map φ := rfl
  have hφp : ∀ x, (φ x).page = x.page := fun x => by
    show (if x.fid = f.fid then Frame.setVal v x else x).page = x.page
    split <;> rfl
  have hφf : ∀ x, (φ x).fid = x.fid := fun x => by
    show (if x.fid = f.fid then Frame.setVal v x else x).fid = x.fid
    split <;> rfl
  -- identities and page ids are unique: only `f` is rewritten, and no other frame holds its page
  have hφ : ∀ x ∈ s.mem.cache.frames, (x = f ∧ φ x = Frame.setVal v f) ∨ (x.page ≠ f.page ∧ φ x = x) := by
    intro x hx
    by_cases hxf : x.fid = f.fid
    · cases eq_of_key_eq (·.fid) hC.inv.fids hx hf hxf
      exact .inl ⟨rfl, if_pos rfl⟩
    · exact .inr ⟨fun e => hxf (congrArg Frame.fid (eq_of_key_eq (·.page) hC.inv.nodup hx hf e)), if_neg hxf⟩
  constructor
  · rw [hfr, map_key_of_keeps (·.page) φ hφp]; exact hC.inv.nodup
  · rw [hfr, map_key_of_keeps (·.fid) φ hφf]; exact hC.inv.fids
  · rw [hfr]; exact List.forall_mem_map.mpr (fun x hx => (hφf x).symm ▸ hC.inv.fidLt x hx)
  · rw [hfr]
    refine List.forall_mem_map.mpr (fun x hx => ?_)
    rcases hφ x hx with ⟨rfl, e⟩ | ⟨hne, e⟩ <;> rw [e]
    · exact if_pos rfl
    · exact (if_neg hne).trans (hC.inv.cached x hx)
  · rw [hfr]
    refine List.forall_mem_map.mpr (fun x hx hd => ?_)
    rcases hφ x hx with ⟨rfl, e⟩ | ⟨_, e⟩ <;> rw [e] at hd ⊢
    · exact Bool.noConfusion hd
    · exact hC.inv.clean x hx hd
  · intro p w hp _ hn
    have hn' : ∀ g ∈ s.mem.cache.frames, g.page ≠ p := fun g hg =>
      hφp g ▸ hn (φ g) (hfr ▸ List.mem_map_of_mem hg)
    exact hC.inv.uncached p w ((if_neg (fun e => hn' f hf e.symm)).symm.trans hp) (fun e => nomatch e) hn'
  · intro p
    show (if p = f.page then some v else sp.get p).isSome = true ↔ _
    by_cases hpf : p = f.page
    · rw [if_pos hpf, hpf]; exact ⟨fun _ => page_lt_total hC.inv hf, fun _ => rfl⟩
    · rw [if_neg hpf]; exact hC.inv.dom p
  · exact hC.inv.diskLen
  · intro h hh
    obtain ⟨g, hg, h1, h2⟩ := hC.inv.handles h hh
    exact ⟨φ g, hfr ▸ List.mem_map_of_mem hg, (hφf g).trans h1, (hφp g).trans h2⟩
  · exact hC.inv.lost
  · exact hC.inv.totalPos

theorem Coupled.pin {s : Pager} {sp : Spec} (hC : Coupled s sp) {f : Frame} (hf : f ∈ s.mem.cache.frames) :
    Coupled { s with mem := (s.mem.addHandle f).1 }
      { sp with pins := sp.pins ++ [(sp.nextHid, f.page)], nextHid := sp.nextHid + 1 } := by
  refine ⟨{ hC.inv with handles := fun h hh => ?_ }, hC.total, ?_, congrArg (· + 1) hC.nextHid⟩
  · exact (List.mem_append.mp hh).elim (hC.inv.handles h) (fun hh' => List.mem_singleton.mp hh' ▸ ⟨f, hf, rfl, rfl⟩)
  · show sp.pins ++ [(sp.nextHid, f.page)] = (s.mem.handles ++ [_]).map _
    rw [List.map_append, ← hC.pins, hC.nextHid]
    rfl

theorem Coupled.unpin {s : Pager} {sp : Spec} (hC : Coupled s sp) (k : Nat) :
    Coupled { s with mem := s.mem.dropHandle k } { sp with pins := sp.pins.filter (fun q => q.1 != k) } := by
  refine ⟨?_, hC.total, ?_, hC.nextHid⟩
  · exact hC.inv.evict (s' := { s with mem := s.mem.dropHandle k }) (out := []) (.refl _) rfl (Nat.le_refl _)
      rfl rfl (fun h' hh' => ⟨(List.mem_filter.mp hh').1, fun _ hg => nomatch hg⟩)
  · show sp.pins.filter _ = (s.mem.handles.filter (fun h => h.hid != k)).map _
    rw [hC.pins, List.filter_map]
    rfl

theorem Coupled.flush {s : Pager} {sp : Spec} (D : Defects) (hC : Coupled s sp) (hp : sp.pins = []) :
    Coupled (s.flush D) sp ∧ (s.flush D).mem.cache.frames = [] :=
  have ⟨h1, h2, h3⟩ := flush_inv D s sp.get hC.inv (List.map_eq_nil_iff.mp (hC.pins.symm.trans hp))
  ⟨hC.of_same h1 h3, h2⟩

theorem Coupled.newCache {s : Pager} {sp : Spec} (hC : Coupled s sp) (hfr : s.mem.cache.frames = []) (cap : Nat) :
    Coupled { s with mem := { s.mem with cache := Cache.empty cap } } sp :=
  hC.of_same (hC.inv.evict (s' := { s with mem := { s.mem with cache := Cache.empty cap } }) (out := [])
    (by rw [hfr]; exact .refl _) rfl (Nat.le_refl _) rfl rfl (fun _ hh => ⟨hh, fun _ hg => nomatch hg⟩))
    ⟨rfl, rfl, rfl, rfl, rfl⟩

theorem step_coupled (D : Defects) (s : Pager) (sp : Spec) (op : POp) (hC : Coupled s sp)
    (hoom : (s.step D op).2 ≠ .oom)
    (hadm : (!op.isCheckpoint || sp.pins.isEmpty) = true) : StepOk s sp D op := by
  cases op with
  | alloc => exact .of_agree (step_alloc D s sp hC hoom)
  | read p =>
    rw [step_read_eq] at hoom
    exact .of_agree (afterRead_coupled D s sp p _ (fun v => (sp, .val v)) hC hoom (fun _ _ hC' _ _ => ⟨hC', rfl⟩))
  | write p v =>
    rw [step_write_eq] at hoom
    exact .of_agree (afterRead_coupled D s sp p _ (fun _ => (sp.put p v, .ok)) hC hoom
      (fun _ _ hC' hf hp => ⟨hp ▸ hC'.write hf v, rfl⟩))
  | pin p =>
    rw [step_pin_eq] at hoom
    exact .of_agree (afterRead_coupled D s sp p _
      (fun _ => ({ sp with pins := sp.pins ++ [(sp.nextHid, p)], nextHid := sp.nextHid + 1 }, .handle sp.nextHid)) hC hoom
      (fun _ _ hC' hf hp => ⟨hp ▸ hC'.pin hf, congrArg Out.handle hC'.nextHid.symm⟩))
  | unpin k =>
    exact .of_agree (step_unpin_eq D s k ▸ withHandle_coupled s sp k _
      (fun _ => ({ sp with pins := sp.pins.filter (fun q => q.1 != k) }, .ok)) hC (fun _ _ => ⟨hC.unpin k, rfl⟩))
  | hread k =>
    refine .of_agree (step_hread_eq D s k ▸ withHandle_coupled s sp k _
      (fun q => (sp, match sp.get q.2 with | some v => .val v | none => .nohandle)) hC (fun h hh => ?_))
    obtain ⟨f, hf, _, h2, h3⟩ := frameOf_cached hC.inv hh
    simp only [h3, show sp.get h.page = some f.val from h2 ▸ hC.inv.cached f hf]
    exact ⟨hC, rfl⟩
  | hwrite k v =>
    refine .of_agree (step_hwrite_eq D s k v ▸ withHandle_coupled s sp k _ (fun q => (sp.put q.2 v, .ok)) hC
      (fun h hh => ?_))
    obtain ⟨f, hf, h1, h2, _⟩ := frameOf_cached hC.inv hh
    exact ⟨h1 ▸ h2 ▸ hC.write hf v, rfl⟩
  | flush => exact ⟨(hC.flush D (List.isEmpty_iff.mp hadm)).1, fun _ => rfl⟩
  | reopen =>
    have ⟨h1, h2⟩ := hC.flush D (List.isEmpty_iff.mp hadm)
    exact ⟨h1.newCache h2 _, fun _ => rfl⟩
  | disk p => exact ⟨(step_disk D s p).1.symm ▸ hC, fun h => nomatch h⟩

def OutsAgree : List POp → List Out → List Out → Prop
  | [], [], [] => True
  | op :: ops, o :: os, o' :: os' => (op.isDisk = false → o = o') ∧ OutsAgree ops os os'
  | _, _, _ => False

theorem Pager.run_cons (D : Defects) (s : Pager) (op : POp) (ops : List POp) :
    s.run D (op :: ops) = (((s.step D op).1.run D ops).1, (s.step D op).2 :: ((s.step D op).1.run D ops).2) := rfl

theorem Pager.run_append (D : Defects) (s : Pager) (a b : List POp) :
    (s.run D (a ++ b)).1 = ((s.run D a).1.run D b).1 := by
  induction a generalizing s with
  | nil => rfl
  | cons x xs ih => exact ih (s.step D x).1

theorem Spec.run_append (sp : Spec) (a b : List POp) : (sp.run (a ++ b)).1 = ((sp.run a).1.run b).1 := by
  induction a generalizing sp with
  | nil => rfl
  | cons x xs ih => exact ih (sp.step x).1

theorem run_coupled (D : Defects) (s : Pager) (sp : Spec) (ops : List POp) (hC : Coupled s sp)
    (hoom : ∀ o ∈ (s.run D ops).2, o ≠ .oom) (hadm : sp.admissible ops = true) :
    Coupled (s.run D ops).1 (sp.run ops).1 ∧ OutsAgree ops (s.run D ops).2 (sp.run ops).2 := by
  induction ops generalizing s sp with
  | nil => exact ⟨hC, trivial⟩
  | cons op ops ih =>
    obtain ⟨hadm1, hadm2⟩ := Bool.and_eq_true_iff.mp hadm
    rw [Pager.run_cons] at hoom
    have hstep := step_coupled D s sp op hC (hoom _ List.mem_cons_self) hadm1
    have := ih (s.step D op).1 (sp.step op).1 hstep.1 (fun o ho => hoom o (List.mem_cons_of_mem _ ho)) hadm2
    exact ⟨this.1, hstep.2, this.2⟩

theorem init_coupled (cap : Nat) : Coupled (Pager.init cap) {} :=
  ⟨{ nodup := List.nodup_nil, fids := List.nodup_nil, fidLt := fun _ h => (nomatch h), cached := fun _ h => (nomatch h),
     clean := fun _ h => (nomatch h), uncached := fun _ _ h => (by cases h),
     dom := fun p => ⟨fun h => (by cases h), fun h => absurd h.1 (Nat.not_le.mpr h.2)⟩,
     diskLen := Nat.le_refl 1, handles := fun _ h => (nomatch h), lost := rfl, totalPos := Nat.le_refl 1 },
   rfl, rfl, rfl⟩

def readThrough (s : Pager) (p : Nat) : Option Nat :=
  match s.mem.cache.get p with
  | some f => some f.val
  | none => if p ≠ 0 ∧ p < s.disk.len then some (s.disk.read p) else none

theorem readThrough_eq {s : Pager} {σ : Nat → Option Nat} (hI : Inv s σ) (p : Nat) : readThrough s p = σ p := by
  unfold readThrough
  cases hget : s.mem.cache.get p with
  | some f =>
    obtain ⟨hf, rfl⟩ := get_some hget
    exact (hI.cached f hf).symm
  | none =>
    cases hσ : σ p with
    | some v =>
      have := hI.uncached p v hσ (fun e => nomatch e) (get_none_iff.mp hget)
      have hd := (hI.dom p).mp (by rw [hσ]; rfl)
      exact (if_pos ⟨Nat.ne_of_gt hd.1, this.1⟩).trans (congrArg some this.2)
    | none =>
      -- not allocated: page zero, or beyond the page counter and so beyond the file
      refine if_neg (fun ⟨h0, h1⟩ => ?_)
      have := (hI.dom p).mpr ⟨Nat.pos_of_ne_zero h0, Nat.lt_of_lt_of_le h1 hI.diskLen⟩
      rw [hσ] at this
      cases this

theorem afterRead_oom (D : Defects) (hD : D.cursorForwardOnly = false) (s : Pager) (p : Nat)
    (k : Pager → Frame → Pager × Out) (hk : ∀ s' f, (k s' f).2 ≠ .oom) (h : (afterRead D s p k).2 = .oom) :
    AllPinned s.mem := by
  revert h
  fun_cases afterRead D s p k
  case case2 s' f _ => exact fun h => absurd h (hk s' f)
  case case3 s' hr => exact fun _ => readPage_oom D hD s p (congrArg Prod.snd hr)
  -- a refused page and an I/O error are not out-of-memory
  all_goals exact fun h => nomatch h

theorem withHandle_oom (s : Pager) (k : Nat) (kp : Handle → Pager × Out) (hk : ∀ h, (kp h).2 ≠ .oom) :
    (withHandle s k kp).2 ≠ .oom := by
  fun_cases withHandle s k kp
  case case1 h _ => exact hk h
  case case2 => exact fun h => nomatch h

theorem step_oom (D : Defects) (hD : D.cursorForwardOnly = false) (s : Pager) (op : POp)
    (h : (s.step D op).2 = .oom) : AllPinned s.mem := by
  cases op with
  | alloc =>
    rw [step_alloc_eq] at h
    cases hcf : (allocState s).cacheFrame D (allocFrame s) with
    | mk s' b =>
      rw [hcf] at h
      cases b with
      | true => cases h
      | false => exact cacheFrame_false D hD (allocState s) _ (congrArg Prod.snd hcf)
  | read p => exact afterRead_oom D hD s p _ (fun _ _ h => by cases h) (step_read_eq D s p ▸ h)
  | write p v => exact afterRead_oom D hD s p _ (fun _ _ h => by cases h) (step_write_eq D s p v ▸ h)
  | pin p => exact afterRead_oom D hD s p _ (fun _ _ h => by cases h) (step_pin_eq D s p ▸ h)
  | unpin k => exact absurd (step_unpin_eq D s k ▸ h) (withHandle_oom s k _ (fun _ h => by cases h))
  | hread k => exact absurd (step_hread_eq D s k ▸ h) (withHandle_oom s k _ (fun _ h => by split at h <;> cases h))
  | hwrite k v => exact absurd (step_hwrite_eq D s k v ▸ h) (withHandle_oom s k _ (fun _ h => by cases h))
  | flush => cases h
  | reopen => cases h
  | disk p => exact absurd h (step_disk D s p).2

theorem allPinned_handles {m : Mem} (hfid : (m.cache.frames.map (·.fid)).Nodup) (h : AllPinned m) :
    m.cache.capacity ≤ m.handles.length ∧ 1 ≤ m.handles.length := by
  have hle : (m.cache.frames.map (·.fid)).length ≤ (m.handles.map (·.fid)).length := by
    apply hfid.length_le_of_subset
    intro x hx
    obtain ⟨f, hf, rfl⟩ := List.mem_map.mp hx
    exact List.mem_map.mpr (free_eq_false_iff.mp (h.2.2 f hf))
  rw [List.length_map, List.length_map] at hle
  have hpos : 0 < m.cache.frames.length := List.length_pos_iff.mpr h.2.1
  exact ⟨Nat.le_trans h.1 hle, Nat.le_trans hpos hle⟩

/-- All a pager operation ever does to its cache is insert a frame, write through one, clear it, or start a new one
    on re-opening; and it never touches the configured size. -/
theorem step_cache_ind (D : Defects) (P : Cache → Prop)
    (hins : ∀ c free f, P c → P (c.insert D free f).1)
    (hupd : ∀ c fid v, P c → P { c with frames := updFid fid (Frame.setVal v) c.frames })
    (hclear : ∀ c, P c → P (c.clear D).1) (s : Pager) (op : POp)
    (hopen : P (Cache.empty (if D.openIgnoresCacheSize then defaultCacheSize else headerCacheSize D s.cfgCache)))
    (h : P s.mem.cache) : P (s.step D op).1.mem.cache ∧ (s.step D op).1.cfgCache = s.cfgCache := by
  let Q : Pager → Prop := fun s' => P s'.mem.cache ∧ s'.cfgCache = s.cfgCache
  have h0 : Q s := ⟨h, rfl⟩
  have hcf : ∀ (s1 : Pager) f, Q s1 → Q (s1.cacheFrame D f).1 := fun s1 f h1 =>
    ⟨(cacheFrame_spec D s1 f).2.2.1 ▸ hins _ _ _ h1.1, (cacheFrame_spec D s1 f).1.cfg.trans h1.2⟩
  have hrp : ∀ p, Q (s.readPage D p).1 := fun p => by
    fun_cases Pager.readPage D s p
    case case4 f s1 s' hcf' => exact (congrArg Prod.fst hcf') ▸ hcf s1 f h0
    case case5 f s1 s' hcf' => exact (congrArg Prod.fst hcf') ▸ hcf s1 f h0
    all_goals exact h0
  have hread : ∀ p k, (∀ s' f, Q s' → Q (k s' f).1) → Q (afterRead D s p k).1 := by
    intro p k hk
    have := hrp p
    fun_cases afterRead D s p k
    case case1 => exact h0
    case case2 s' f hr => rw [hr] at this; exact hk s' f this
    case case3 s' hr => rw [hr] at this; exact this
    case case4 s' hr => rw [hr] at this; exact this
  have hhandle : ∀ k kp, (∀ h, Q (kp h).1) → Q (withHandle s k kp).1 := fun k kp hk => by
    fun_cases withHandle s k kp
    case case1 h _ => exact hk h
    case case2 => exact h0
  show Q (s.step D op).1
  cases op with
  | alloc =>
    rw [step_alloc_eq]
    have := hcf (allocState s) (allocFrame s) h0
    cases hcf' : (allocState s).cacheFrame D (allocFrame s) with
    | mk s' b => rw [hcf'] at this; cases b <;> exact this
  | read p => exact step_read_eq D s p ▸ hread p _ (fun _ _ h => h)
  | write p v => exact step_write_eq D s p v ▸ hread p _ (fun _ f h => ⟨hupd _ f.fid v h.1, h.2⟩)
  | pin p => exact step_pin_eq D s p ▸ hread p _ (fun _ _ h => h)
  | unpin k => exact step_unpin_eq D s k ▸ hhandle k _ (fun _ => h0)
  | hread k => exact step_hread_eq D s k ▸ hhandle k _ (fun _ => by split <;> exact h0)
  | hwrite k v => exact step_hwrite_eq D s k v ▸ hhandle k _ (fun _ => ⟨hupd _ _ v h, rfl⟩)
  | flush =>
    refine ⟨?_, rfl⟩
    show P (s.flush D).mem.cache
    rw [show (s.flush D).mem.cache = (s.mem.cache.clear D).1 from (parkAll_same _ _).1]
    exact hclear _ h
  | reopen => exact ⟨hopen, rfl⟩
  | disk p => exact (step_disk D s p).1.symm ▸ h0

theorem step_wf (D : Defects) (s : Pager) (op : POp) (h : WF s.mem.cache) : WF (s.step D op).1.mem.cache :=
  (step_cache_ind D WF (fun c free f => insert_wf D free c f)
    (fun _ _ _ h => h.of_map _ (fun x => by split <;> rfl)) (fun _ _ => empty_wf _ _) s op (empty_wf _ _) h).1

theorem run_wf (D : Defects) (s : Pager) (ops : List POp) (h : WF s.mem.cache) : WF (s.run D ops).1.mem.cache := by
  induction ops generalizing s with
  | nil => exact h
  | cons op ops ih => exact ih (s.step D op).1 (step_wf D s op h)

def COp.keepsCapacity : COp → Bool
  | .setcap _ => false
  | _ => true

theorem churnLoop_wf (D : Defects) (k : Nat) (m : Mem) (i ev : Nat) (h : WF m.cache) :
    WF (m.churnLoop D k i ev).1.cache := by
  induction k generalizing m i ev with
  | zero => exact h
  | succ k ih =>
    unfold Mem.churnLoop
    simp only []
    have hi := insert_wf D ({ m with nextFid := m.nextFid + 1 } : Mem).free m.cache
      { page := churnBase + i % 2, fid := m.nextFid, val := 0, dirty := false } h
    split <;> (rename_i heq; rw [heq] at hi)
    · exact hi
    · apply ih; rw [(park_same _ _).1]; exact hi
    · apply ih; exact hi
    · apply ih; exact hi

theorem cstep_wf (D : Defects) (m : Mem) (op : COp) (hop : op.keepsCapacity = true) (h : WF m.cache) :
    WF (m.cstep D op).1.cache := by
  cases op with
  | ins p v d =>
    simp only [Mem.cstep]
    have hi := insert_wf D ({ m with nextFid := m.nextFid + 1 } : Mem).free m.cache { page := p, fid := m.nextFid, val := v, dirty := d } h
    split <;> (rename_i heq; rw [heq] at hi)
    · exact hi
    · rw [(park_same _ _).1]; exact hi
    · exact hi
    · exact hi
  | get p | pin p | unpin k => simp only [Mem.cstep]; split <;> exact h
  | hread k =>
    simp only [Mem.cstep]
    split
    · split <;> exact h
    · exact h
  | hwrite k v | hdirty k =>
    simp only [Mem.cstep]
    split
    · exact h.of_map _ (fun x => by split <;> rfl)
    · exact h
  | evict =>
    simp only [Mem.cstep]
    have he := evict_wf D m.free m.cache h
    split <;> (rename_i heq; rw [heq] at he; exact he)
  | rm p =>
    simp only [Mem.cstep]
    have hr := remove_wf m.cache p h
    split
    · rename_i c f heq; rw [heq] at hr
      split
      · exact hr
      · rw [(park_same _ _).1]; exact hr
    · rename_i c heq; rw [heq] at hr; exact hr
  | clear | drain =>
    simp only [Mem.cstep]
    rw [(parkAll_same _ _).1]
    exact empty_wf _ _
  | setcap n => cases hop
  | stat => exact h
  | churn n => exact churnLoop_wf D n m 0 0 h

theorem crun_wf (D : Defects) (m : Mem) (ops : List COp) (hops : ∀ op ∈ ops, op.keepsCapacity = true)
    (h : WF m.cache) : WF (m.crun D ops).1.cache := by
  induction ops generalizing m with
  | nil => exact h
  | cons op ops ih =>
    exact ih (m.cstep D op).1 (fun o ho => hops o (List.mem_cons_of_mem _ ho))
      (cstep_wf D m op (hops op List.mem_cons_self) h)

/-- 65535 is what `headerCacheSize` saturates at: a re-opened pager runs with `min cap 65535` frames. -/
def CapOk (cap : Nat) (s : Pager) : Prop := s.cfgCache = cap ∧ min cap 65535 ≤ s.mem.cache.capacity

theorem step_capOk (cap : Nat) (s : Pager) (op : POp) (h : CapOk cap s) : CapOk cap (s.step Defects.none op).1 :=
  have := step_cache_ind Defects.none (fun c => min cap 65535 ≤ c.capacity)
    (fun c free f hc => (insert_capacity Defects.none free c f).symm ▸ hc) (fun _ _ _ hc => hc) (fun _ hc => hc) s op
    (h.1 ▸ Nat.le_refl (min s.cfgCache 65535)) h.2
  ⟨this.2.trans h.1, this.1⟩
theorem no_oom_of_pin_bound (D : Defects) (hD : D.cursorForwardOnly = false) (cap : Nat) (s : Pager) (sp : Spec)
    (op : POp) (hC : Coupled s sp) (hcap : CapOk cap s) (hb : sp.pins.length < min cap 65535) :
    (s.step D op).2 ≠ .oom := by
  intro h
  have := allPinned_handles hC.inv.fids (step_oom D hD s op h)
  have hl : sp.pins.length = s.mem.handles.length := by rw [hC.pins, List.length_map]
  have := hcap.2
  omega

theorem step_bounded (cap : Nat) (s : Pager) (sp : Spec) (op : POp) (hC : Coupled s sp) (hcap : CapOk cap s)
    (hb : sp.pins.length < min cap 65535) (hadm : (!op.isCheckpoint || sp.pins.isEmpty) = true) :
    (s.step Defects.none op).2 ≠ .oom ∧ StepOk s sp Defects.none op ∧ CapOk cap (s.step Defects.none op).1 :=
  have hno := no_oom_of_pin_bound Defects.none rfl cap s sp op hC hcap hb
  ⟨hno, step_coupled Defects.none s sp op hC hno hadm, step_capOk cap s op hcap⟩

/-- A storage client: anything that decides its next pager operation from the answers it has received so far — the
    B+tree code, the catalog, the executor: every deterministic single-threaded user of the pager is one. `none` = done. -/
abbrev Client := List Out → Option POp

def Pager.interact (D : Defects) (client : Client) : Nat → Pager → List Out → List (POp × Out)
  | 0, _, _ => []
  | n + 1, s, hist =>
    match client hist with
    | none => []
    | some op => (op, (s.step D op).2) :: Pager.interact D client n (s.step D op).1 (hist ++ [(s.step D op).2])

def Spec.interact (client : Client) : Nat → Spec → List Out → List (POp × Out)
  | 0, _, _ => []
  | n + 1, sp, hist =>
    match client hist with
    | none => []
    | some op => (op, (sp.step op).2) :: Spec.interact client n (sp.step op).1 (hist ++ [(sp.step op).2])

/-- What is asked of the client, checked on its dialogue with the flat store alone: it never looks at the file behind
    the pager's back, it checkpoints only while it holds no frame, and it never holds `bound` frames or more at once. -/
def Spec.clientOk (bound : Nat) (client : Client) : Nat → Spec → List Out → Bool
  | 0, _, _ => true
  | n + 1, sp, hist =>
    match client hist with
    | none => true
    | some op =>
      !op.isDisk && (!op.isCheckpoint || sp.pins.isEmpty) && decide (sp.pins.length < bound) &&
        Spec.clientOk bound client n (sp.step op).1 (hist ++ [(sp.step op).2])

theorem interact_refines (cap bound : Nat) (hb : bound ≤ min cap 65535) (client : Client) (n : Nat) (s : Pager)
    (sp : Spec) (hist : List Out) (hC : Coupled s sp) (hcap : CapOk cap s)
    (hok : Spec.clientOk bound client n sp hist = true) :
    Pager.interact Defects.none client n s hist = Spec.interact client n sp hist := by
  induction n generalizing s sp hist with
  | zero => rfl
  | succ n ih =>
    unfold Pager.interact Spec.interact
    unfold Spec.clientOk at hok
    cases hc : client hist with
    | none => rfl
    | some op =>
      simp only [hc, Bool.and_eq_true, decide_eq_true_eq] at hok
      obtain ⟨⟨⟨hnd, hadm⟩, hpins⟩, hrest⟩ := hok
      obtain ⟨_, hstep, hcap'⟩ := step_bounded cap s sp op hC hcap (Nat.lt_of_lt_of_le hpins hb) hadm
      simp only []
      rw [hstep.2 (by simpa using hnd)]
      congr 1
      exact ih (s.step Defects.none op).1 (sp.step op).1 _ hstep.1 hcap' hrest

def Spec.pinBounded (bound : Nat) : Spec → List POp → Bool
  | _, [] => true
  | sp, op :: ops => decide (sp.pins.length < bound) && Spec.pinBounded bound (sp.step op).1 ops

theorem run_no_oom (cap bound : Nat) (hb : bound ≤ min cap 65535) (ops : List POp) (s : Pager) (sp : Spec)
    (hC : Coupled s sp) (hcap : CapOk cap s) (hadm : sp.admissible ops = true)
    (hpins : Spec.pinBounded bound sp ops = true) : ∀ o ∈ (s.run Defects.none ops).2, o ≠ .oom := by
  induction ops generalizing s sp with
  | nil => intro o ho; cases ho
  | cons op ops ih =>
    simp only [Spec.admissible, Spec.pinBounded, Bool.and_eq_true, decide_eq_true_eq] at hadm hpins
    rw [Pager.run_cons]
    obtain ⟨hno, hstep, hcap'⟩ := step_bounded cap s sp op hC hcap (Nat.lt_of_lt_of_le hpins.1 hb) hadm.1
    intro o ho
    rcases List.mem_cons.mp ho with rfl | ho
    · exact hno
    · exact ih (s.step Defects.none op).1 (sp.step op).1 hstep.1 hcap' hadm.2 hpins.2 o ho

theorem init_capOk (cap : Nat) : CapOk cap (Pager.init cap) := ⟨rfl, Nat.min_le_left _ _⟩

end AxVerif.Cache

namespace AxVerif.Config
open AxVerif.Cache (Defects)

theorem clampPage_range (n : Nat) : 4096 ≤ clampPage n ∧ clampPage n ≤ 65536 := by
  unfold clampPage minPageSize maxPageSize
  omega

/-- The bounds say that the settings fit the header's fields (`toHeader`). -/
theorem header_roundtrip_requested (c : Config) (hp : c.pageSize < 2 ^ 32) (hc : c.cacheSize ≤ 65535)
    (hk : c.minKeys < 2 ^ 8) (hs : c.siblings < 2 ^ 8) :
    effectiveAtCreate Defects.none c = requested c ∧
    effectiveAtOpen Defects.none (toHeader Defects.none c) = requested c := by
  unfold effectiveAtCreate effectiveAtOpen requested toHeader AxVerif.Cache.headerCacheSize
  rw [Nat.mod_eq_of_lt hp, Nat.mod_eq_of_lt hk, Nat.mod_eq_of_lt hs]
  exact ⟨rfl, congrArg (Effective.mk c.pageSize · c.minKeys c.siblings) (Nat.min_eq_left hc)⟩

theorem nextPow2_ge (n : Nat) : n ≤ nextPow2 n := by
  unfold nextPow2
  split
  · assumption
  · have := @Nat.lt_log2_self (n - 1)
    omega

theorem nextPow2_pow (n : Nat) : ∃ k, nextPow2 n = 2 ^ k := by
  unfold nextPow2
  split
  · exact ⟨0, rfl⟩
  · exact ⟨_, rfl⟩

theorem nextPow2_least (n : Nat) (h : 1 < n) : nextPow2 n / 2 < n := by
  unfold nextPow2
  have h1 : ¬ n ≤ 1 := by omega
  simp only [h1, if_false]
  have := @Nat.log2_self_le (n - 1) (by omega)
  rw [Nat.pow_succ, Nat.mul_div_cancel _ (by decide : 0 < 2)]
  omega

theorem clamp_pow2 (j a b : Nat) : min (max (2 ^ j) (2 ^ a)) (2 ^ b) = 2 ^ min (max j a) b := by
  have hpow : ∀ {m n : Nat}, m ≤ n → 2 ^ m ≤ 2 ^ n := Nat.pow_le_pow_right (by decide)
  have hmax : max (2 ^ j) (2 ^ a) = 2 ^ max j a := by
    rcases Nat.le_total j a with h | h
    · rw [Nat.max_eq_right h, Nat.max_eq_right (hpow h)]
    · rw [Nat.max_eq_left h, Nat.max_eq_left (hpow h)]
  rw [hmax]
  rcases Nat.le_total (max j a) b with h | h
  · rw [Nat.min_eq_left h, Nat.min_eq_left (hpow h)]
  · rw [Nat.min_eq_right h, Nat.min_eq_right (hpow h)]

theorem clampPage_pow2 (n : Nat) : ∃ k, 12 ≤ k ∧ k ≤ 16 ∧ clampPage n = 2 ^ k := by
  obtain ⟨j, hj⟩ := nextPow2_pow n
  refine ⟨min (max j 12) 16, by omega, by omega, ?_⟩
  unfold clampPage
  rw [hj]
  exact clamp_pow2 j 12 16

theorem clampPage_fix (k : Nat) (h1 : 12 ≤ k) (h2 : k ≤ 16) : clampPage (2 ^ k) = 2 ^ k := by
  have : k = 12 ∨ k = 13 ∨ k = 14 ∨ k = 15 ∨ k = 16 := by omega
  rcases this with rfl | rfl | rfl | rfl | rfl <;> decide

end AxVerif.Config
