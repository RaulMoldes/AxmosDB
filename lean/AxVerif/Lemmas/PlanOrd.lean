/- Lemmas about orderings and the sort enforcer (Model/Plan, section "Orderings and the sort enforcer"). -/
import AxVerif.Lemmas.Plan
namespace AxVerif.Plan
open AxVerif.Sql AxVerif.Index

theorem leads_iff_prefix (r : List OrdKey) (d : List DKey) : leads r d = true ↔ r.map some <+: d := by
  induction r generalizing d with
  | nil => simp [leads]
  | cons k rs ih =>
    cases d with
    | nil => simp [leads]
    | cons x ds =>
      simp only [leads, Bool.and_eq_true, beq_iff_eq, List.map_cons, ih, List.cons_prefix_cons]
      constructor
      · rintro ⟨h, h'⟩; exact ⟨h.symm, h'⟩
      · rintro ⟨h, h'⟩; exact ⟨h.symm, h'⟩

theorem leadsZip_iff (r : List OrdKey) (d : List DKey) :
    leadsZip r d = true ↔ (r.map some <+: d ∨ d <+: r.map some) := by
  induction r generalizing d with
  | nil => simp [leadsZip]
  | cons k rs ih =>
    cases d with
    | nil => simp [leadsZip]
    | cons x ds =>
      simp only [leadsZip, Bool.and_eq_true, beq_iff_eq, List.map_cons, ih, List.cons_prefix_cons]
      constructor
      · rintro ⟨h, h' | h'⟩
        · exact Or.inl ⟨h.symm, h'⟩
        · exact Or.inr ⟨h, h'⟩
      · rintro (⟨h, h'⟩ | ⟨h, h'⟩)
        · exact ⟨h.symm, Or.inl h'⟩
        · exact ⟨h, Or.inr h'⟩

theorem leadsZip_of_leads (r : List OrdKey) (d : List DKey) (h : leads r d = true) : leadsZip r d = true :=
  (leadsZip_iff r d).2 (.inl ((leads_iff_prefix r d).1 h))

theorem leOn_nil (nf : Bool) (a b : Row) : leOn nf [] a b = true := by
  simp [leOn, keysOf, cmpKeys]

theorem leOn_cons (nf : Bool) (k : OrdKey) (ks : List OrdKey) (a b : Row) :
    leOn nf (k :: ks) a b =
      (Sql.lexOrd (cmpKey nf k.asc (a.getD k.col .null) (b.getD k.col .null))
        (cmpKeys nf (ks.map (·.asc)) (keysOf ks a) (keysOf ks b)) != .gt) := by
  simp [leOn, keysOf, cmpKeys]

theorem leOn_prefix (nf : Bool) (r t : List OrdKey) (a b : Row) (h : leOn nf (r ++ t) a b = true) :
    leOn nf r a b = true := by
  induction r with
  | nil => exact leOn_nil nf a b
  | cons k rs ih =>
    rw [List.cons_append, leOn_cons] at h
    rw [leOn_cons]
    cases hc : cmpKey nf k.asc (a.getD k.col .null) (b.getD k.col .null) with
    | lt => simp [Sql.lexOrd]
    | gt => rw [hc] at h; simp [Sql.lexOrd] at h
    | eq =>
      simp only [hc, Sql.lexOrd] at h ⊢
      exact ih h

theorem sortedOn_prefix (nf : Bool) (r t : List OrdKey) (rows : List Row) (h : SortedOn nf (r ++ t) rows) :
    SortedOn nf r rows :=
  List.Pairwise.imp (fun {a b} hab => leOn_prefix nf r t a b hab) h

theorem sortedOnB_iff (nf : Bool) (ks : List OrdKey) (rows : List Row) :
    sortedOnB nf ks rows = true ↔ SortedOn nf ks rows := by
  induction rows with
  | nil => simp [sortedOnB, SortedOn]
  | cons a rest ih =>
    simp only [sortedOnB, Bool.and_eq_true, List.all_eq_true, ih, SortedOn, List.pairwise_cons]

theorem leOn_total (nf : Bool) (ks : List OrdKey) (a b : Row) : leOn nf ks a b = true ∨ leOn nf ks b a = true :=
  leKeys_total nf (ks.map (fun (k : OrdKey) => k.asc)) (keysOf ks a, a) (keysOf ks b, b)

theorem leOn_trans (nf : Bool) (ks : List OrdKey) (a b c : Row) :
    leOn nf ks a b = true → leOn nf ks b c = true → leOn nf ks a c = true :=
  leKeys_trans nf (ks.map (fun (k : OrdKey) => k.asc)) (keysOf ks a, a) (keysOf ks b, b) (keysOf ks c, c)

theorem sortOn_sorted (nf : Bool) (ks : List OrdKey) (rows : List Row) : SortedOn nf ks (sortOn nf ks rows) :=
  sorted_sortBy (leOn nf ks) (leOn_total nf ks) (leOn_trans nf ks) rows

theorem sortOn_perm (nf : Bool) (ks : List OrdKey) (rows : List Row) : (sortOn nf ks rows).Perm rows :=
  perm_sortBy _ rows

end AxVerif.Plan
