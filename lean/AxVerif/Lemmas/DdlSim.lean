/-
  Simulation of the MVCC machine with dynamic catalog (`Ddl.step`, `Defects.none`) by the abstract machine
  (`Ddl.Spec.step`), built from the lemmas of `Lemmas/Db.lean`, `Lemmas/DbSim.lean`.
-/
import AxVerif.Model.Ddl
import AxVerif.Lemmas.DbHist
namespace AxVerif.Ddl
open AxVerif.Db

theorem _root_.AxVerif.Db.Core.setCats {σ : Db.State} {α : Db.Spec.State} {j : Nat} (h : Core σ α j) (c1 c2 : Catalog) (hc : c1 = c2) :
    Core { σ with cat := c1 } { α with cat := c2 } j :=
  ⟨h.cinv, h.sinv, hc, h.clock, h.committed, h.log⟩

theorem insFrom_rewriteRows (c : Nat) (tname : String) (f : List Val → List Val) (rows : List ARow) (j : Nat) :
    InsFrom c j (rewriteRows c tname f rows j) := by
  fun_induction rewriteRows c tname f rows j
  · exact trivial
  · next ih => exact ⟨rfl, ih⟩
  · next ih => exact ih

theorem mem_rewriteRows {c : Nat} {tname : String} {f : List Val → List Val} {e : Effect} {rows : List ARow} {j : Nat}
    (he : e ∈ rewriteRows c tname f rows j) :
    (∃ r ∈ rows, r.table = tname ∧ e = .del r.rid) ∨ ∃ j vals, e = .ins (c, j) tname vals := by
  fun_induction rewriteRows c tname f rows j
  · exact nomatch he
  · next r rs j ht ih =>
    rcases List.mem_cons.1 he with he | he
    · exact Or.inl ⟨r, List.mem_cons_self .., beq_iff_eq.1 ht, he⟩
    · rcases List.mem_cons.1 he with he | he
      · exact Or.inr ⟨j, _, he⟩
      · exact (ih he).imp_left fun ⟨r', hr', h'⟩ => ⟨r', List.mem_cons_of_mem _ hr', h'⟩
  · next ih => exact (ih he).imp_left fun ⟨r', hr', h'⟩ => ⟨r', List.mem_cons_of_mem _ hr', h'⟩

def DStmt.target : DStmt → Option String
  | .addKey t _ _ | .addColumn t _ _ | .dropColumn t _ | .setNotNull t _ | .dropNotNull t _ | .dropTable t => some t
  | _ => none

theorem planDdl_effs (h : Heap) (c : Nat) (v : View) (st : DStmt) :
    (planDdl h c v st).effs = [] ∨
    (st.target = none ∧ ∃ n, (planDdl h c v st).effs = [.ins (c, 0) metaName [.text n, .int c]]) ∨
    ∃ t m ts, st.target = some t ∧ resolve h v t = some (m, ts) ∧
      ((planDdl h c v st).effs = [.del m.rid] ∨ (planDdl h c v st).effs = [.upd m.rid 1 (.int c)] ∨
        ∃ f, (planDdl h c v st).effs = .upd m.rid 1 (.int c) :: rewriteRows c ts.name f v 0) := by
  fun_cases planDdl h c v st
  case case3 => exact Or.inr (Or.inl ⟨rfl, _, rfl⟩)                                   -- CREATE TABLE, name free
  case case5 => exact Or.inr (Or.inr ⟨_, _, _, rfl, ‹_›, Or.inl rfl⟩)                  -- DROP TABLE, name resolves
  case case10 => exact Or.inr (Or.inr ⟨_, _, _, rfl, ‹_›, Or.inr (Or.inl rfl)⟩)        -- ADD KEY, existing rows satisfy it
  case case13 => exact Or.inr (Or.inr ⟨_, _, _, rfl, ‹_›, Or.inr (Or.inr ⟨_, rfl⟩)⟩)   -- ADD COLUMN, column name free
  case case16 => exact Or.inr (Or.inr ⟨_, _, _, rfl, ‹_›, Or.inr (Or.inr ⟨_, rfl⟩)⟩)   -- DROP COLUMN, column exists
  case case20 => exact Or.inr (Or.inr ⟨_, _, _, rfl, ‹_›, Or.inr (Or.inl rfl)⟩)        -- SET NOT NULL, no NULL stored
  case case23 => exact Or.inr (Or.inr ⟨_, _, _, rfl, ‹_›, Or.inr (Or.inl rfl)⟩)        -- DROP NOT NULL, column exists
  all_goals exact Or.inl rfl                                                           -- every failing branch, and DML

theorem insFrom_planDdl (h : Heap) (c : Nat) (v : View) (st : DStmt) : InsFrom c 0 (planDdl h c v st).effs := by
  rcases planDdl_effs h c v st with e | ⟨_, n, e⟩ | ⟨t, m, ts, _, _, e | e | ⟨f, e⟩⟩ <;> rw [e]
  · exact trivial
  · exact ⟨rfl, trivial⟩
  · exact trivial
  · exact trivial
  · exact insFrom_rewriteRows c _ _ v 0

structure StmtSim (σ : State) (α : Spec.State) (tid : Nat) (r : State × SOut) (r' : Db.Spec.ATxn × Heap × SOut) : Prop where
  out : r.2 = r'.2.2
  heap : r.1.heap = r'.2.1
  core : ∃ j, Core r.1.db α.db j
  own : TxRel r.1.db tid r'.1
  others : ∀ tid' a', tid' ≠ tid → TxRel σ.db tid' a' → TxRel r.1.db tid' a'
  sessions : r.1.db.sessions = σ.db.sessions
  errHeap : r'.2.2.isErr = true → r'.2.1 = α.heap

theorem ddl_core (σ : State) (α : Spec.State) (h : Core σ.db α.db 0) (hh : σ.heap = α.heap) (tid : Nat)
    (a : Db.Spec.ATxn) (hr : TxRel σ.db tid a) (st : DStmt) : StmtSim σ α tid (σ.ddl D0 tid st) (Spec.ddl α a st) := by
  have hr0 := hr
  obtain ⟨t, ht, hact, hview, hws, hst⟩ := hr
  have hplan : planDdl σ.heap σ.db.clock (view D0 (σ.db.snapOf tid) σ.db.rows) st = planDdl α.heap α.db.clock a.view st := by
    rw [snapOf_eq σ.db tid t ht, hview, hh, h.clock]
  unfold State.ddl Spec.ddl
  simp only [hplan]
  by_cases he : (planDdl α.heap α.db.clock a.view st).out.isErr = true
  · simp only [if_pos he]
    exact ⟨rfl, hh, ⟨0, h⟩, hr0, fun _ _ _ h' => h', rfl, fun _ => rfl⟩
  · have hflag : D0.createRefusedWhileNameHeld = false := rfl
    simp only [if_neg he, hflag, Bool.false_and, Bool.false_eq_true, if_false]
    have hi : InsFrom σ.db.clock 0 (planDdl α.heap α.db.clock a.view st).effs := by
      rw [h.clock]; exact insFrom_planDdl _ _ _ _
    obtain ⟨h1, h2, h3⟩ := write_core σ.db α.db 0 h tid a hr0 _ hi
    refine ⟨rfl, ?_, ⟨_, h1⟩, h2, h3, ?_, fun h' => (he h').elim⟩
    · show addDesc σ.heap σ.db.clock _ = addDesc α.heap α.db.clock _
      rw [hh, h.clock]
    · show (σ.db.write D0 tid _).sessions = σ.db.sessions
      rw [write_none]

theorem dml_core (σ : State) (α : Spec.State) (h : Core σ.db α.db 0) (hh : σ.heap = α.heap) (tid : Nat)
    (a : Db.Spec.ATxn) (hr : TxRel σ.db tid a) (s : Stmt) : StmtSim σ α tid (σ.dml D0 tid s) (Spec.dml α a s) := by
  have hr0 := hr
  obtain ⟨t, ht, hact, hview, hws, hst⟩ := hr
  have hv : view D0 (σ.db.snapOf tid) σ.db.rows = a.view := by rw [snapOf_eq σ.db tid t ht, hview]
  unfold State.dml Spec.dml
  simp only [hv, hh]
  cases hres : resolveDml α.heap a.view s with
  | none =>
    dsimp only
    exact ⟨rfl, hh, ⟨0, h⟩, hr0, fun _ _ _ h' => h', rfl, fun _ => rfl⟩
  | some s' =>
    dsimp only
    have hc := h.setCats (catOf α.heap a.view) (catOf α.heap a.view) rfl
    have hr' : TxRel { σ.db with cat := catOf α.heap a.view } tid a := hr0.of_eq rfl rfl
    obtain ⟨g1, g2, g3, g4⟩ := stmt_core _ _ 0 hc tid a hr' s'
    refine ⟨?_, rfl, ?_, ?_, ?_, ?_, fun _ => rfl⟩
    · rw [g1]
    · exact ⟨_, g2.setCats σ.db.cat α.db.cat h.cat⟩
    · exact g3.of_eq rfl rfl
    · intro tid' a' hne h'
      exact (g4 tid' a' hne (h'.of_eq rfl rfl)).of_eq rfl rfl
    · show (Db.State.stmt D0 _ tid 0 s').1.sessions = σ.db.sessions
      rw [stmt_sessions]

theorem dstmt_core (σ : State) (α : Spec.State) (h : Core σ.db α.db 0) (hh : σ.heap = α.heap) (tid : Nat)
    (a : Db.Spec.ATxn) (hr : TxRel σ.db tid a) (st : DStmt) : StmtSim σ α tid (σ.stmt D0 tid st) (Spec.stmt α a st) := by
  cases st with
  | dml s => exact dml_core σ α h hh tid a hr s
  | _ => exact ddl_core σ α h hh tid a hr _

theorem dcommit_core (σ : State) (α : Spec.State) (j : Nat) (h : Core σ.db α.db j) (hh : σ.heap = α.heap) (tid : Nat)
    (a : Db.Spec.ATxn) (hr : TxRel σ.db tid a) :
    (σ.commitC D0 tid).2 = (α.commitC a).2 ∧ (σ.commitC D0 tid).1.heap = (α.commitC a).1.heap ∧
    Core (σ.commitC D0 tid).1.db (α.commitC a).1.db j ∧
    (∀ tid' a', tid' ≠ tid → TxRel σ.db tid' a' → TxRel (σ.commitC D0 tid).1.db tid' a') ∧
    (σ.commitC D0 tid).1.db.sessions = σ.db.sessions ∧ (α.commitC a).1.db.sessions = α.db.sessions := by
  obtain ⟨_, c1, _⟩ := commit_core σ.db α.db j h tid a hr
  have hcat : catOf σ.heap (view D0 ((σ.db.commitTxn tid).1.freshSnap D0) (σ.db.commitTxn tid).1.rows) =
      catOf α.heap (α.db.commitTxn a).1.committed := by
    rw [c1.committed, hh]
  unfold State.commitC Spec.State.commitC
  simp only [hcat]
  have hc := h.setCats (catOf α.heap (α.db.commitTxn a).1.committed) (catOf α.heap (α.db.commitTxn a).1.committed) rfl
  have hr' : TxRel { σ.db with cat := catOf α.heap (α.db.commitTxn a).1.committed } tid a := hr.of_eq rfl rfl
  obtain ⟨g1, g2, g3⟩ := commitC_core _ _ j hc tid a hr'
  refine ⟨g1, hh, g2.setCats σ.db.cat α.db.cat h.cat, ?_, ?_, ?_⟩
  · intro tid' a' hne h'
    exact (g3 tid' a' hne (h'.of_eq rfl rfl)).of_eq rfl rfl
  · show (Db.State.commitC D0 _ tid).1.sessions = σ.db.sessions
    rw [commitC_sessions]
  · show (Db.Spec.State.commitC _ a).1.sessions = α.db.sessions
    rw [spec_commitC_sessions]

/-- the relation between the two machines right after `stepCore` (before the clock ticks) -/
def DRelJ (σ : State) (α : Spec.State) : Prop :=
  (∃ j, RelL σ.db α.db j (lkS σ.db) (lkA α.db)) ∧ σ.heap = α.heap

/-- the relation at operation boundaries -/
def DRel (σ : State) (α : Spec.State) : Prop := Rel σ.db α.db ∧ σ.heap = α.heap

def DStepOk (σ : State) (α : Spec.State) (op : DOp) : Prop :=
  (stepCore D0 σ op).2 = (Spec.stepCore α op).2 ∧ DRelJ (stepCore D0 σ op).1 (Spec.stepCore α op).1

theorem lift_ok (σ : State) (α : Spec.State) (h : DRel σ α) (op : Db.Op) :
    (liftDb D0 σ op).2 = (Spec.liftDb α op).2 ∧ DRelJ (liftDb D0 σ op).1 (Spec.liftDb α op).1 := by
  obtain ⟨ho, j, r⟩ := stepCore_ok σ.db α.db h.1 op
  exact ⟨ho, ⟨j, r⟩, h.2⟩

/-! `RelL.remove`, `RelL.own` and `RelL.anon` for new states described by their session tables as lists. -/

theorem rel_session_ended {σ σ1 : Db.State} {α α1 : Db.Spec.State} {j' : Nat} (h : Rel σ α) {s : String} {tid : Nat}
    (hl : lookup s σ.sessions = some tid) (hc : Core σ1 α1 j')
    (pres : ∀ tid' a', tid' ≠ tid → TxRel σ tid' a' → TxRel σ1 tid' a')
    (hs : σ1.sessions = σ.sessions) (ha : α1.sessions = α.sessions) :
    RelL (σ1.endSession s) { α1 with sessions := erase s α1.sessions } j'
      (lkS (σ1.endSession s)) (lkA { α1 with sessions := erase s α1.sessions }) := by
  apply (RelL.remove h s tid hl hc pres).cast <;> try rfl
  · intro n
    show lookup n (erase s σ1.sessions) = _
    rw [hs, lookup_erase_if]; rfl
  · intro n
    show lookup n (erase s α1.sessions) = _
    rw [ha, lookup_erase_if]; rfl

theorem rel_session_stepped {σ σ1 : Db.State} {α α1 : Db.Spec.State} {j' : Nat} (h : Rel σ α) {s : String} {tid : Nat}
    (hl : lookup s σ.sessions = some tid) {a' : Db.Spec.ATxn} (hc : Core σ1 α1 j') (tx : TxRel σ1 tid a')
    (pres : ∀ tid' a'', tid' ≠ tid → TxRel σ tid' a'' → TxRel σ1 tid' a'')
    (hs : σ1.sessions = σ.sessions) (ha : α1.sessions = α.sessions) :
    RelL σ1 { α1 with sessions := (s, a') :: erase s α1.sessions } j'
      (lkS σ1) (lkA { α1 with sessions := (s, a') :: erase s α1.sessions }) := by
  apply (RelL.own h s tid hl a' hc tx pres).cast <;> try rfl
  · intro n; rw [hs]; rfl
  · intro n
    show lookup n ((s, a') :: erase s α1.sessions) = _
    rw [ha, lookup_cons_if, lookup_erase_if]
    by_cases e : n = s <;> simp [e, lkA]

theorem rel_no_session {σ σ' : Db.State} {α α' : Db.Spec.State} {j' : Nat} (h : Rel σ α) (hc : Core σ' α' j')
    (pres : ∀ tid' a'', (∃ name, lkS σ name = some tid') → TxRel σ tid' a'' → TxRel σ' tid' a'')
    (hs : σ'.sessions = σ.sessions) (ha : α'.sessions = α.sessions) : RelL σ' α' j' (lkS σ') (lkA α') := by
  apply (RelL.anon h hc pres).cast <;> try rfl
  · intro n; rw [hs]; rfl
  · intro n; rw [ha]; rfl

theorem dcommit_ok (σ : State) (α : Spec.State) (h : DRel σ α) (s : String) : DStepOk σ α (.commit s) := by
  unfold DStepOk
  simp only [stepCore, Spec.stepCore]
  cases hl : lookup s σ.db.sessions with
  | none =>
    have hn : lookup s α.db.sessions = none := h.1.sessNone s hl
    rw [hn]
    exact ⟨rfl, ⟨0, h.1⟩, h.2⟩
  | some tid =>
    obtain ⟨a, ha, hr⟩ := h.1.sess s tid hl
    rw [show lookup s α.db.sessions = some a from ha]
    dsimp only
    obtain ⟨hok, hheap, c1, pres, hs1, hs2⟩ := dcommit_core σ α 0 h.1.core h.2 tid a hr
    exact ⟨by rw [hok], ⟨0, rel_session_ended h.1 hl c1 pres hs1 hs2⟩, hheap⟩

theorem dexec_ok (σ : State) (α : Spec.State) (h : DRel σ α) (s : String) (st : DStmt) :
    DStepOk σ α (.exec s st) := by
  unfold DStepOk
  simp only [stepCore, Spec.stepCore]
  cases hl : lookup s σ.db.sessions with
  | none =>
    have hn : lookup s α.db.sessions = none := h.1.sessNone s hl
    rw [hn]
    exact ⟨rfl, ⟨0, h.1⟩, h.2⟩
  | some tid =>
    obtain ⟨a, ha, hr⟩ := h.1.sess s tid hl
    rw [show lookup s α.db.sessions = some a from ha]
    dsimp only
    have sim := dstmt_core σ α h.1.core h.2 tid a hr st
    obtain ⟨j, c1⟩ := sim.core
    exact ⟨by rw [sim.out], ⟨j, rel_session_stepped h.1 hl c1 sim.own sim.others sim.sessions rfl⟩, sim.heap⟩

theorem dauto_ok (σ : State) (α : Spec.State) (h : DRel σ α) (st : DStmt) : DStepOk σ α (.auto st) := by
  unfold DStepOk
  simp only [stepCore, Spec.stepCore]
  obtain ⟨c1, htid, tx1, pres1⟩ := begin_core σ.db α.db 0 h.1.core
  rcases hb : σ.db.beginTxn D0 with ⟨db1, tid⟩
  simp only [hb] at c1 htid tx1 pres1
  subst htid
  have hs1 : db1.sessions = σ.db.sessions := by
    have := congrArg (fun x => x.1.sessions) hb
    simpa [State.beginTxn] using this.symm
  have sim := dstmt_core { σ with db := db1 } α c1 h.2 σ.db.txns.length α.db.beginTxn tx1 st
  generalize ({ σ with db := db1 } : State).stmt D0 σ.db.txns.length st = X at sim ⊢
  generalize Spec.stmt α α.db.beginTxn st = Y at sim ⊢
  obtain ⟨σ2, o⟩ := X
  obtain ⟨a', h', o'⟩ := Y
  obtain rfl : o = o' := sim.out
  obtain ⟨j, c2⟩ := sim.core
  have hsess : σ2.db.sessions = σ.db.sessions := sim.sessions.trans hs1
  have pres : ∀ tid' a'', (∃ name, lkS σ.db name = some tid') → TxRel σ.db tid' a'' → TxRel σ2.db tid' a'' :=
    fun tid' a'' hex h'' => sim.others tid' a'' (sess_ne_new σ.db α.db h.1 tid' hex) (pres1 tid' a'' h'')
  dsimp only
  by_cases he : o.isErr = true
  · simp only [he, if_true]
    obtain ⟨c3, pres3⟩ := abort_core σ2.db α.db j c2 _ a' sim.own
    exact ⟨trivial, ⟨j, rel_no_session h.1 c3 (fun tid' a'' hex h'' =>
      pres3 tid' a'' (sess_ne_new σ.db α.db h.1 tid' hex) (pres tid' a'' hex h'')) hsess rfl⟩,
      sim.heap.trans (sim.errHeap he)⟩
  · simp only [he, Bool.false_eq_true, if_false]
    obtain ⟨hok, hheap2, c3, pres3, hs3, hs4⟩ :=
      dcommit_core σ2 { α with heap := h' } j c2 sim.heap σ.db.txns.length a' sim.own
    exact ⟨by rw [hok], ⟨j, rel_no_session h.1 c3 (fun tid' a'' hex h'' =>
      pres3 tid' a'' (sess_ne_new σ.db α.db h.1 tid' hex) (pres tid' a'' hex h'')) (hs3.trans hsess) hs4⟩,
      hheap2⟩

theorem drop_rel (σ : Db.State) (α : Db.Spec.State) (h : Rel σ α) (s : String) :
    Rel (Db.stepCore D0 σ (.drop s)).1 (Db.Spec.stepCore α (.drop s)).1 := by
  simp only [Db.stepCore, Db.Spec.stepCore]
  cases hl : lookup s σ.sessions with
  | none =>
    have hn : lookup s α.sessions = none := h.sessNone s hl
    rw [hn]
    exact h
  | some tid =>
    obtain ⟨a, ha, r⟩ := abort_ok_aux σ α h s tid hl
    rw [ha]
    exact r

theorem reopen_rel : ∀ (ss : List String) (σ : State) (α : Spec.State), DRel σ α →
    DRel (ss.foldl (fun σ s => (liftDb D0 σ (.drop s)).1) σ) (ss.foldl (fun α s => (Spec.liftDb α (.drop s)).1) α)
  | [], _, _, h => h
  | s :: ss, σ, α, h => by
    simp only [List.foldl_cons]
    apply reopen_rel ss
    exact ⟨drop_rel σ.db α.db h.1 s, h.2⟩

theorem dstepCore_ok (σ : State) (α : Spec.State) (h : DRel σ α) (op : DOp) : DStepOk σ α op := by
  cases op with
  | begin s => exact lift_ok σ α h _
  | commit s => exact dcommit_ok σ α h s
  | rollback s => exact lift_ok σ α h _
  | drop s => exact lift_ok σ α h _
  | exec s st => exact dexec_ok σ α h s st
  | auto st => exact dauto_ok σ α h st
  | reopen ss => exact ⟨rfl, ⟨0, (reopen_rel ss σ α h).1⟩, (reopen_rel ss σ α h).2⟩
  | tick => exact lift_ok σ α h _
  | nop => exact ⟨rfl, ⟨0, h.1⟩, h.2⟩

theorem dstep_ok (σ : State) (α : Spec.State) (h : DRel σ α) (op : DOp) :
    (step D0 σ op).2 = (Spec.step α op).2 ∧ DRel (step D0 σ op).1 (Spec.step α op).1 := by
  obtain ⟨ho, ⟨j, r⟩, hh⟩ := dstepCore_ok σ α h op
  unfold step Spec.step
  exact ⟨ho, relL_tick r, hh⟩

theorem dinit_rel : DRel State.init Spec.State.init := ⟨init_rel [], rfl⟩

theorem dreach : ∀ (ops : List DOp) (σ : State) (α : Spec.State), DRel σ α →
    outsM D0 σ ops = Spec.outs α ops ∧ DRel (finalM D0 σ ops) (Spec.final α ops)
  | [], _, _, h => ⟨rfl, h⟩
  | op :: ops, σ, α, h => by
    obtain ⟨ho, hr⟩ := dstep_ok σ α h op
    obtain ⟨h1, h2⟩ := dreach ops _ _ hr
    simp only [outsM, Spec.outs, finalM, Spec.final]
    exact ⟨by rw [ho, h1], h2⟩

theorem dreach_rel (ops : List DOp) : DRel (run D0 ops).1 (Spec.run ops).1 :=
  (dreach ops State.init Spec.State.init dinit_rel).2

end AxVerif.Ddl
