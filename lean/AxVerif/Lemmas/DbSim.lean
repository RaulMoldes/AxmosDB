/-
  Simulation of the MVCC machine (`Defects.none`) by the abstract snapshot-isolation machine, operation by operation.
-/
import AxVerif.Lemmas.Db
namespace AxVerif.Db
open AxVerif.Db

def StepOk (σ : State) (α : Spec.State) (op : Op) : Prop :=
  (stepCore D0 σ op).2 = (Spec.stepCore α op).2 ∧
  ∃ j, RelL (stepCore D0 σ op).1 (Spec.stepCore α op).1 j (lkS (stepCore D0 σ op).1) (lkA (Spec.stepCore α op).1)

theorem RelL.cast {σ σ' : State} {α α' : Spec.State} {j : Nat} {ls : String → Option Nat}
    {la : String → Option Spec.ATxn} (h : RelL σ α j ls la)
    (e1 : σ'.txns = σ.txns) (e2 : σ'.rows = σ.rows) (e3 : σ'.lastCommitted = σ.lastCommitted)
    (e4 : σ'.clog = σ.clog) (e5 : σ'.cat = σ.cat) (e6 : σ'.clock = σ.clock)
    (f1 : α'.committed = α.committed) (f2 : α'.log = α.log) (f3 : α'.cat = α.cat) (f4 : α'.clock = α.clock)
    (hs : ∀ n, lookup n σ'.sessions = ls n) (ha : ∀ n, lookup n α'.sessions = la n) :
    RelL σ' α' j (lkS σ') (lkA α') := by
  have h1 : lkS σ' = ls := funext hs
  have h2 : lkA α' = la := funext ha
  rw [h1, h2]
  refine ⟨h.core.of_eq e1 e2 e3 e4 e5 e6 f1 f2 f3 f4, ?_, h.sessNone, h.inj⟩
  intro name tid hn
  obtain ⟨a, g1, g2⟩ := h.sess name tid hn
  exact ⟨a, g1, g2.of_eq e1 e2⟩

theorem RelL.setS {σ : State} {α : Spec.State} {j : Nat} {ls : String → Option Nat} {la : String → Option Spec.ATxn}
    (h : RelL σ α j ls la) (x : List (String × Nat)) : RelL { σ with sessions := x } α j ls la :=
  ⟨h.core.of_eq rfl rfl rfl rfl rfl rfl rfl rfl rfl rfl,
    fun name tid hn => (h.sess name tid hn).imp fun _ g => ⟨g.1, g.2.of_eq rfl rfl⟩, h.sessNone, h.inj⟩

theorem RelL.setA {σ : State} {α : Spec.State} {j : Nat} {ls : String → Option Nat} {la : String → Option Spec.ATxn}
    (h : RelL σ α j ls la) (y : List (String × Spec.ATxn)) : RelL σ { α with sessions := y } j ls la :=
  ⟨h.core.of_eq rfl rfl rfl rfl rfl rfl rfl rfl rfl rfl, h.sess, h.sessNone, h.inj⟩

theorem RelL.lk {σ : State} {α : Spec.State} {j : Nat} {ls : String → Option Nat} {la : String → Option Spec.ATxn}
    (h : RelL σ α j ls la) (hs : ∀ n, lookup n σ.sessions = ls n) (ha : ∀ n, lookup n α.sessions = la n) :
    RelL σ α j (lkS σ) (lkA α) :=
  h.cast rfl rfl rfl rfl rfl rfl rfl rfl rfl rfl hs ha

theorem begin_ok (σ : State) (α : Spec.State) (h : Rel σ α) (s : String) : StepOk σ α (.begin s) := by
  unfold StepOk
  dsimp only [stepCore, Spec.stepCore]
  cases hl : lookup s σ.sessions with
  | none =>
    dsimp only
    obtain ⟨c1, _, tx, pres⟩ := begin_core σ α 0 h.core
    have hfresh : ∀ name tid, lkS σ name = some tid → tid ≠ σ.txns.length := by
      intro name tid hn
      obtain ⟨a, _, ha⟩ := h.sess name tid hn
      exact Nat.ne_of_lt ha.lt
    refine ⟨rfl, 0, (((RelL.add h s σ.txns.length α.beginTxn c1 tx pres hfresh).setS _).setA _).lk ?_ ?_⟩
    · intro n
      rw [lookup_cons_if]; rfl
    · intro n
      rw [lookup_cons_if, lookup_erase_if]
      by_cases e : n = s <;> simp [e, lkA]
  | some old =>
    dsimp only
    obtain ⟨aold, _, hold⟩ := h.sess s old hl
    obtain ⟨c0, pres0⟩ := abort_core σ α 0 h.core old aold hold
    have r0 := RelL.remove h s old hl c0 pres0
    obtain ⟨c1, _, tx, pres⟩ := begin_core (σ.abortTxn old) α 0 c0
    have hlen : (σ.abortTxn old).txns.length = σ.txns.length := by
      simp [State.abortTxn, setStatus]
    have hfresh : ∀ name tid, (fun n => if n = s then none else lkS σ n) name = some tid →
        tid ≠ (σ.abortTxn old).txns.length := by
      intro name tid hn
      by_cases e : name = s
      · simp [e] at hn
      · simp only [e, if_false] at hn
        obtain ⟨a, _, ha⟩ := h.sess name tid hn
        rw [hlen]; exact Nat.ne_of_lt ha.lt
    refine ⟨rfl, 0, (((RelL.add r0 s (σ.abortTxn old).txns.length α.beginTxn c1 tx pres hfresh).setS _).setA _).lk ?_ ?_⟩
    · intro n
      rw [lookup_cons_if]
      show (if n = s then _ else lookup n (erase s σ.sessions)) = _
      rw [lookup_erase_if]; rfl
    · intro n
      rw [lookup_cons_if, lookup_erase_if]; rfl

theorem nosession_ok (σ : State) (α : Spec.State) (h : Rel σ α) : 
    RelL σ α 0 (lkS σ) (lkA α) := h

theorem commit_ok (σ : State) (α : Spec.State) (h : Rel σ α) (s : String) : StepOk σ α (.commit s) := by
  unfold StepOk
  dsimp only [stepCore, Spec.stepCore]
  cases hl : lookup s σ.sessions with
  | none =>
    rw [show lookup s α.sessions = none from h.sessNone s hl]
    exact ⟨rfl, 0, h⟩
  | some tid =>
    obtain ⟨a, ha, hr⟩ := h.sess s tid hl
    rw [show lookup s α.sessions = some a from ha]
    dsimp only
    obtain ⟨hok, c1, pres⟩ := commitC_core σ α 0 h.core tid a hr
    refine ⟨by rw [hok], 0, (((RelL.remove h s tid hl c1 pres).setS _).setA _).lk ?_ ?_⟩
    · intro n
      rw [commitC_sessions, lookup_erase_if]; rfl
    · intro n
      rw [spec_commitC_sessions, lookup_erase_if]; rfl

theorem abort_ok_aux (σ : State) (α : Spec.State) (h : Rel σ α) (s : String) (tid : Nat)
    (hl : lookup s σ.sessions = some tid) :
    ∃ a, lookup s α.sessions = some a ∧
      RelL ((σ.abortTxn tid).endSession s) { α with sessions := erase s α.sessions } 0
        (lkS ((σ.abortTxn tid).endSession s)) (lkA { α with sessions := erase s α.sessions }) := by
  obtain ⟨a, ha, hr⟩ := h.sess s tid hl
  obtain ⟨c1, pres⟩ := abort_core σ α 0 h.core tid a hr
  exact ⟨a, ha, (((RelL.remove h s tid hl c1 pres).setS _).setA _).lk
    (fun n => by rw [lookup_erase_if]; rfl) (fun n => by rw [lookup_erase_if]; rfl)⟩

theorem rollback_ok (σ : State) (α : Spec.State) (h : Rel σ α) (s : String) : StepOk σ α (.rollback s) := by
  unfold StepOk
  dsimp only [stepCore, Spec.stepCore]
  cases hl : lookup s σ.sessions with
  | none =>
    rw [show lookup s α.sessions = none from h.sessNone s hl]
    exact ⟨rfl, 0, h⟩
  | some tid =>
    obtain ⟨a, ha, r⟩ := abort_ok_aux σ α h s tid hl
    rw [ha]
    exact ⟨rfl, 0, r⟩

theorem exec_ok (σ : State) (α : Spec.State) (h : Rel σ α) (s : String) (st : Stmt) : StepOk σ α (.exec s st) := by
  unfold StepOk
  dsimp only [stepCore, Spec.stepCore]
  cases hl : lookup s σ.sessions with
  | none =>
    rw [show lookup s α.sessions = none from h.sessNone s hl]
    exact ⟨rfl, 0, h⟩
  | some tid =>
    obtain ⟨a, ha, hr⟩ := h.sess s tid hl
    rw [show lookup s α.sessions = some a from ha]
    dsimp only
    obtain ⟨hp, c1, tx, pres⟩ := stmt_core σ α 0 h.core tid a hr st
    refine ⟨by rw [hp], 0 + countIns (σ.stmt D0 tid 0 st).2.effs, ((RelL.own h s tid hl _ c1 tx pres).setA _).lk ?_ ?_⟩
    · intro n
      rw [stmt_sessions]; rfl
    · intro n
      rw [lookup_cons_if, lookup_erase_if]
      by_cases e : n = s <;> simp [e, lkA]

theorem sess_ne_new (σ : State) (α : Spec.State) (h : Rel σ α) (tid' : Nat) (hex : ∃ name, lkS σ name = some tid') :
    tid' ≠ σ.txns.length := by
  obtain ⟨name, hn⟩ := hex
  obtain ⟨a, _, ha⟩ := h.sess name tid' hn
  exact Nat.ne_of_lt ha.lt

theorem spec_commit_sessions (α : Spec.State) (a : Spec.ATxn) : (α.commitTxn a).1.sessions = α.sessions := by
  unfold Spec.State.commitTxn; split <;> rfl

/-! An autocommit statement or a batch runs in a transaction of its own that belongs to no session: begun with the next
    id `σ.txns.length`, it has reached `σ2` (related to the abstract transaction `a`) when it is aborted or committed. -/

theorem anon_abort_ok {σ σ2 : State} {α : Spec.State} {j : Nat} {a : Spec.ATxn} (h : Rel σ α) (c2 : Core σ2 α j)
    (tx2 : TxRel σ2 σ.txns.length a) (hs2 : σ2.sessions = σ.sessions)
    (pres : ∀ tid' a'', tid' ≠ σ.txns.length → TxRel σ tid' a'' → TxRel σ2 tid' a'') :
    RelL (σ2.abortTxn σ.txns.length) α j (lkS (σ2.abortTxn σ.txns.length)) (lkA α) := by
  obtain ⟨c3, pres3⟩ := abort_core σ2 α j c2 _ a tx2
  have r := RelL.anon h c3 (fun tid' a'' hex h' =>
    pres3 tid' a'' (sess_ne_new σ α h tid' hex) (pres tid' a'' (sess_ne_new σ α h tid' hex) h'))
  exact r.lk (fun n => by rw [show (σ2.abortTxn σ.txns.length).sessions = σ.sessions from hs2]; rfl) (fun n => rfl)

theorem anon_commit_ok {σ σ2 : State} {α : Spec.State} {j : Nat} {a : Spec.ATxn} (h : Rel σ α) (c2 : Core σ2 α j)
    (tx2 : TxRel σ2 σ.txns.length a) (hs2 : σ2.sessions = σ.sessions)
    (pres : ∀ tid' a'', tid' ≠ σ.txns.length → TxRel σ tid' a'' → TxRel σ2 tid' a'') :
    (σ2.commitC D0 σ.txns.length).2 = (α.commitC a).2 ∧
    RelL (σ2.commitC D0 σ.txns.length).1 (α.commitC a).1 j (lkS (σ2.commitC D0 σ.txns.length).1) (lkA (α.commitC a).1) := by
  obtain ⟨hok, c3, pres3⟩ := commitC_core σ2 α j c2 _ a tx2
  have r := RelL.anon h c3 (fun tid' a'' hex h' =>
    pres3 tid' a'' (sess_ne_new σ α h tid' hex) (pres tid' a'' (sess_ne_new σ α h tid' hex) h'))
  exact ⟨hok, r.lk (fun n => by rw [commitC_sessions, hs2]; rfl) (fun n => by rw [spec_commitC_sessions]; rfl)⟩

theorem auto_ok (σ : State) (α : Spec.State) (h : Rel σ α) (st : Stmt) : StepOk σ α (.auto st) := by
  unfold StepOk
  dsimp only [stepCore, Spec.stepCore]
  obtain ⟨c1, htid, tx1, pres1⟩ := begin_core σ α 0 h.core
  rw [htid]
  obtain ⟨hp, c2, tx2, pres2⟩ := stmt_core _ α 0 c1 _ _ tx1 st
  have hs2 : ((σ.beginTxn D0).1.stmt D0 σ.txns.length 0 st).1.sessions = σ.sessions := stmt_sessions ..
  have pres : ∀ tid' a'', tid' ≠ σ.txns.length → TxRel σ tid' a'' →
      TxRel ((σ.beginTxn D0).1.stmt D0 σ.txns.length 0 st).1 tid' a'' :=
    fun tid' a'' hne h' => pres2 tid' a'' hne (pres1 tid' a'' h')
  rw [hp]
  split
  · exact ⟨rfl, _, anon_abort_ok h c2 tx2 hs2 pres⟩
  · obtain ⟨hok, r⟩ := anon_commit_ok h c2 tx2 hs2 pres
    exact ⟨by rw [hok], _, r⟩

theorem batch_ok (σ : State) (α : Spec.State) (h : Rel σ α) (sts : List Stmt) : StepOk σ α (.batch sts) := by
  unfold StepOk
  dsimp only [stepCore, Spec.stepCore]
  obtain ⟨c1, htid, tx1, pres1⟩ := begin_core σ α 0 h.core
  rw [htid]
  obtain ⟨hp, ⟨j2, c2⟩, tx2, pres2⟩ := batch_core α σ.txns.length sts _ 0 α.beginTxn c1 tx1
  have hs2 : (State.batch D0 (σ.beginTxn D0).1 σ.txns.length 0 sts).1.sessions = σ.sessions :=
    batch_sessions ..
  have pres : ∀ tid' a'', tid' ≠ σ.txns.length → TxRel σ tid' a'' →
      TxRel (State.batch D0 (σ.beginTxn D0).1 σ.txns.length 0 sts).1 tid' a'' :=
    fun tid' a'' hne h' => pres2 tid' a'' hne (pres1 tid' a'' h')
  rcases hx : State.batch D0 (σ.beginTxn D0).1 σ.txns.length 0 sts with ⟨σ2, outs, r⟩
  rcases hy : Spec.batch α.cat α.clock α.beginTxn 0 sts with ⟨a', outs', r'⟩
  simp only [hx, hy, Prod.mk.injEq] at hp c2 tx2 hs2 pres
  obtain ⟨hp1, hp2⟩ := hp
  subst hp1 hp2
  cases r with
  | some e => exact ⟨rfl, j2, anon_abort_ok h c2 tx2 hs2 pres⟩
  | none =>
    dsimp only
    obtain ⟨hok, r⟩ := anon_commit_ok h c2 tx2 hs2 pres
    exact ⟨by rw [hok], j2, r⟩

theorem spec_tick (α : Spec.State) :
    α.commitTxn α.beginTxn = ({ α with log := α.log ++ [(α.log.length, [])] }, true) := by
  have hf : ∀ (l : View), l.filter (fun _ => false) = [] := fun l => by simp
  have ht : ∀ (l : View), l.filter (fun _ => true) = l := fun l => by simp
  simp [Spec.State.commitTxn, Spec.State.beginTxn, Spec.conflict, Spec.ATxn.ws, Spec.ATxn.view, View.applyAll,
    takeOver, hf, ht]

theorem tick_ok (σ : State) (α : Spec.State) (h : Rel σ α) : StepOk σ α .tick := by
  unfold StepOk
  dsimp only [stepCore, Spec.stepCore]
  obtain ⟨c1, htid, tx1, pres1⟩ := begin_core σ α 0 h.core
  rw [htid]
  obtain ⟨_, c3, pres3⟩ := commit_core _ α 0 c1 _ _ tx1
  rw [spec_tick] at c3
  have rr := RelL.anon h c3 (fun tid' a'' hex h' =>
    pres3 tid' a'' (sess_ne_new σ α h tid' hex) (pres1 tid' a'' h'))
  exact ⟨rfl, 0, (rr.setA _).lk (fun n => by rw [commitTxn_sessions]; rfl) (fun n => rfl)⟩

theorem stepCore_ok (σ : State) (α : Spec.State) (h : Rel σ α) (op : Op) : StepOk σ α op := by
  cases op with
  | begin s => exact begin_ok σ α h s
  | commit s => exact commit_ok σ α h s
  | rollback s => exact rollback_ok σ α h s
  | drop s => exact rollback_ok σ α h s
  | exec s st => exact exec_ok σ α h s st
  | auto st => exact auto_ok σ α h st
  | batch sts => exact batch_ok σ α h sts
  | tick => exact tick_ok σ α h
  | nop => exact ⟨rfl, 0, h⟩

/-- at the end of an operation the clock ticks and the row-index counter starts again at 0 -/
theorem relL_tick {σ : State} {α : Spec.State} {j : Nat} (r : RelL σ α j (lkS σ) (lkA α)) :
    Rel { σ with clock := σ.clock + 1 } { α with clock := α.clock + 1 } := by
  have c := r.core
  refine ⟨⟨c.cinv, ⟨c.sinv.stamps, c.sinv.sorted, ?_⟩, c.cat, ?_, c.committed, c.log⟩, ?_, r.sessNone, r.inj⟩
  · exact fun row hrow => ridLt_tick (c.sinv.bound row hrow)
  · show σ.clock + 1 = α.clock + 1
    rw [c.clock]
  · intro name tid hn
    obtain ⟨a, g1, g2⟩ := r.sess name tid hn
    exact ⟨a, g1, g2.of_eq rfl rfl⟩

theorem step_ok (σ : State) (α : Spec.State) (h : Rel σ α) (op : Op) :
    (step D0 σ op).2 = (Spec.step α op).2 ∧ Rel (step D0 σ op).1 (Spec.step α op).1 := by
  obtain ⟨ho, j, r⟩ := stepCore_ok σ α h op
  exact ⟨ho, relL_tick r⟩

theorem init_rel (cat : Catalog) : Rel (State.init cat) (Spec.State.init cat) := by
  -- no transactions, no rows, no log, no sessions: every clause is about members of an empty list
  have hn : ∀ {i : Nat} {t : Txn}, (State.init cat).txns[i]? = some t → False := fun h => (nomatch h)
  have hl : ∀ {i : Nat} {e : Nat × List Rid}, (State.init cat).clog[i]? = some e → False := fun h => (nomatch h)
  exact ⟨⟨⟨fun _ _ h => (hn h).elim, Or.inl rfl, fun _ _ h => (hn h).elim, fun _ he => (nomatch he),
        fun _ _ h => (hn h).elim, fun _ _ h => (hn h).elim, fun _ _ h => (hn h).elim,
        fun _ _ _ _ _ h => (hl h).elim⟩,
      ⟨fun _ hr => (nomatch hr), List.Pairwise.nil, fun _ hr => (nomatch hr)⟩, rfl, rfl, rfl, rfl⟩,
    fun _ _ h => (nomatch h), fun _ _ => rfl, fun _ _ _ h => (nomatch h)⟩

theorem runFrom_ok (ops : List Op) (σ : State) (α : Spec.State) (acc : List Out) (h : Rel σ α) :
    (runFrom D0 σ ops acc).2 = (Spec.runFrom α ops acc).2 ∧ Rel (runFrom D0 σ ops acc).1 (Spec.runFrom α ops acc).1 := by
  induction ops generalizing σ α acc with
  | nil => exact ⟨rfl, h⟩
  | cons op ops ih =>
    obtain ⟨ho, hr⟩ := step_ok σ α h op
    simp only [runFrom, Spec.runFrom]
    rw [ho]
    exact ih _ _ _ hr

end AxVerif.Db
