/-
  Helper lemmas for the value model (C19): equality, ordering, hashing of `Value`.
  The model's three-way comparisons (`icmp`, `Blob.lex`, `Ext.cmp`) are instances of core's `Std.TransCmp` and
  `Std.LawfulEqCmp`; reflexivity, antisymmetry, transitivity and "`eq` only on equal arguments" are the class lemmas.
-/
import AxVerif.Lemmas.Value
namespace AxVerif.Value
open AxVerif Std

instance : TransCmp icmp := inferInstanceAs (TransOrd Int)
instance : LawfulEqCmp icmp := inferInstanceAs (LawfulEqOrd Int)

theorem icmp_eq_iff (a b : Int) : icmp a b = .eq ↔ a = b := Int.compare_eq_eq
theorem icmp_lt_iff (a b : Int) : icmp a b = .lt ↔ a < b := Int.compare_eq_lt

theorem cmp_eq_icmp {β : Type} {cmp : β → β → Ordering} [OrientedCmp cmp] {x y : β} {k l : Int}
    (hlt : k < l → cmp x y = .lt) (hgt : l < k → cmp y x = .lt) (heq : k = l → x = y) : cmp x y = icmp k l := by
  rcases Int.lt_trichotomy k l with h | h | h
  · rw [hlt h, (icmp_lt_iff k l).mpr h]
  · rw [heq h, h, ReflCmp.compare_self (cmp := cmp), ReflCmp.compare_self (cmp := icmp)]
  · rw [OrientedCmp.eq_swap (cmp := cmp), hgt h, OrientedCmp.eq_swap (cmp := icmp), (icmp_lt_iff l k).mpr h]

namespace Ext

def val : Ext → Int
  | .fin z => z
  | _ => 0

theorem cmp_eq_lex : cmp = compareLex (compareOn rank) (compareOn val) := by
  funext x y
  cases x <;> cases y <;> rfl

instance : TransCmp cmp := cmp_eq_lex ▸ inferInstance
instance : LawfulEqCmp cmp where
  eq_of_compare {x y} h := by
    cases x <;> cases y <;>
      first | rfl | exact congrArg Ext.fin ((icmp_eq_iff _ _).mp h) | exact absurd ((icmp_eq_iff _ _).mp h) (by simp only [rank]; decide)

theorem cmp_eq_iff (x y : Ext) : cmp x y = .eq ↔ x = y := LawfulEqCmp.compare_eq_iff_eq
theorem cmp_refl (x : Ext) : cmp x x = .eq := ReflCmp.compare_self
end Ext

theorem numCmp_spec (a b : Value) (x y : Ext) (ha : a.ext = some x) (hb : b.ext = some y) :
    numCmp {} a b = some (Ext.cmp x y) := by
  simp only [numCmp, Bool.false_eq_true, if_false, ha, hb, false_and]

/-! ### the key of a value: its class, and within the class what equality and order look at -/

inductive EqKey
  | null
  | bool (b : Bool)
  | num (x : Ext)
  | blob (d : Bytes)

def Value.eqKey : Value → EqKey
  | .null => .null
  | .bool b => .bool b
  | .blob d => .blob d
  | .int i => .num (.fin (i * (unitScale : Int)))
  | .bigint i => .num (.fin (i * (unitScale : Int)))
  | .uint n => .num (.fin ((n : Int) * (unitScale : Int)))
  | .biguint n => .num (.fin ((n : Int) * (unitScale : Int)))
  | .float b => .num (f32.ext b)
  | .double b => .num (f64.ext b)

def EqKey.cls : EqKey → Nat
  | .null => 0 | .bool _ => 1 | .num _ => 2 | .blob _ => 3

theorem eqKey_cls (a : Value) : a.eqKey.cls = a.cls := by cases a <;> rfl

theorem eqKey_num_iff (v : Value) (x : Ext) : v.eqKey = .num x ↔ v.ext = some x := by
  cases v <;> simp only [Value.eqKey, Value.ext, EqKey.num.injEq, Option.some.injEq, reduceCtorEq]

theorem cls_of_eqKey_num {a : Value} {x : Ext} (h : a.eqKey = .num x) : a.cls = 2 := by
  rw [← eqKey_cls, h]; rfl

theorem ext_isSome_iff (a : Value) : a.cls = 2 ↔ ∃ x, a.ext = some x := by
  cases a <;> simp [Value.cls, Value.ext]

theorem eqKey_inj (a b : Value) (h : a.eqKey = b.eqKey) (hn : a.cls ≠ 2) : a = b := by
  cases a with
  | null => cases b <;> first | rfl | exact EqKey.noConfusion h
  | bool x => cases b <;> first | exact congrArg Value.bool (EqKey.bool.inj h) | exact EqKey.noConfusion h
  | blob d => cases b <;> first | exact congrArg Value.blob (EqKey.blob.inj h) | exact EqKey.noConfusion h
  | int _ | bigint _ | uint _ | biguint _ | float _ | double _ => exact absurd rfl hn

def bcode (b : Bool) : Int := if b then 1 else 0

theorem partialCmp_def (D : Defects) (a b : Value) :
    partialCmp D a b = match a.eqKey, b.eqKey with
      | .bool x, .bool y => some (icmp (bcode x) (bcode y))
      | .num _, .num _ => numCmp D a b
      | .blob x, .blob y => some (Blob.cmp x y)
      | _, _ => none := by
  cases a <;> cases b <;> rfl

theorem eq_def (D : Defects) (a b : Value) :
    eq D a b = match a.eqKey, b.eqKey with
      | .null, .null => true
      | .bool x, .bool y => x == y
      | .num _, .num _ => numCmp D a b == some .eq
      | .blob x, .blob y => Blob.cmp x y == .eq
      | _, _ => false := by
  cases a <;> cases b <;> rfl

theorem cmp_congr (D D' : Defects) (a b : Value)
    (h : ∀ x y, a.eqKey = .num x → b.eqKey = .num y → numCmp D a b = numCmp D' a b) :
    partialCmp D a b = partialCmp D' a b ∧ eq D a b = eq D' a b := by
  rw [partialCmp_def, partialCmp_def D', eq_def, eq_def D']
  cases ha : a.eqKey <;> cases hb : b.eqKey <;> first | exact ⟨rfl, rfl⟩ | (rw [h _ _ ha hb]; exact ⟨rfl, rfl⟩)

theorem cmp_num (D : Defects) (a b : Value) (x y : Ext) (ha : a.ext = some x) (hb : b.ext = some y) :
    partialCmp D a b = numCmp D a b ∧ eq D a b = (numCmp D a b == some .eq) := by
  rw [partialCmp_def, eq_def, (eqKey_num_iff a x).mpr ha, (eqKey_num_iff b y).mpr hb]
  exact ⟨rfl, rfl⟩

theorem eq_iff_key (a b : Value) : eq {} a b = true ↔ a.eqKey = b.eqKey := by
  rw [eq_def]
  cases ha : a.eqKey <;> cases hb : b.eqKey <;>
    first
    | (rw [numCmp_spec a b _ _ ((eqKey_num_iff _ _).mp ha) ((eqKey_num_iff _ _).mp hb)]
       simp only [beq_iff_eq, Option.some.injEq, Ext.cmp_eq_iff, EqKey.num.injEq])
    | simp only [reduceCtorEq, Bool.false_eq_true, beq_iff_eq, EqKey.bool.injEq, EqKey.blob.injEq, Blob.cmp_eq_lex,
        LawfulEqCmp.compare_eq_iff_eq]

def EqKey.cmp : EqKey → EqKey → Option Ordering
  | .bool x, .bool y => some (icmp (bcode x) (bcode y))
  | .num x, .num y => some (Ext.cmp x y)
  | .blob x, .blob y => some (Blob.lex x y)
  | _, _ => none

theorem partialCmp_key (a b : Value) : partialCmp {} a b = EqKey.cmp a.eqKey b.eqKey := by
  rw [partialCmp_def]
  cases ha : a.eqKey <;> cases hb : b.eqKey <;>
    first
    | rfl
    | exact congrArg some (Blob.cmp_eq_lex _ _)
    | exact numCmp_spec a b _ _ ((eqKey_num_iff _ _).mp ha) ((eqKey_num_iff _ _).mp hb)

theorem bcode_inj (x y : Bool) : bcode x = bcode y ↔ x = y := by cases x <;> cases y <;> decide

namespace EqKey
theorem cmp_eq_iff (k l : EqKey) : cmp k l = some .eq ↔ k = l ∧ k.cls ≠ 0 := by
  cases k <;> cases l <;> simp [cmp, cls, bcode_inj]
theorem cmp_swap (k l : EqKey) : cmp l k = (cmp k l).map Ordering.swap := by
  cases k <;> cases l <;> first | rfl | exact congrArg some OrientedCmp.eq_swap
theorem cmp_trans (o : Ordering) (k l m : EqKey) (h1 : cmp k l = some o) (h2 : cmp l m = some o) : cmp k m = some o := by
  -- `some o` puts the three keys into one class, and there it is that class's own transitivity
  cases k <;> cases l <;> simp only [cmp, reduceCtorEq, Option.some.injEq] at h1 <;>
    cases m <;> simp only [cmp, reduceCtorEq, Option.some.injEq] at h2 ⊢ <;>
    cases o
  all_goals first | exact TransCmp.lt_trans h1 h2 | exact TransCmp.eq_trans h1 h2 | exact TransCmp.gt_trans h1 h2
theorem cmp_isSome_iff (k l : EqKey) : (cmp k l).isSome ↔ k.cls = l.cls ∧ k.cls ≠ 0 := by
  cases k <;> cases l <;> simp [cmp, cls]
end EqKey

theorem partialCmp_isSome_iff (a b : Value) : (partialCmp {} a b).isSome ↔ a.cls = b.cls ∧ a.cls ≠ 0 := by
  rw [partialCmp_key, EqKey.cmp_isSome_iff, eqKey_cls, eqKey_cls]

theorem partialCmp_swap (a b : Value) : partialCmp {} b a = (partialCmp {} a b).map Ordering.swap := by
  rw [partialCmp_key, partialCmp_key, EqKey.cmp_swap]

theorem partialCmp_trans (o : Ordering) (a b c : Value) (h1 : partialCmp {} a b = some o) (h2 : partialCmp {} b c = some o) :
    partialCmp {} a c = some o := by
  rw [partialCmp_key] at h1 h2 ⊢
  exact EqKey.cmp_trans o _ _ _ h1 h2

theorem partialCmp_eq_iff (a b : Value) : partialCmp {} a b = some .eq ↔ eq {} a b = true ∧ a.cls ≠ 0 := by
  rw [partialCmp_key, EqKey.cmp_eq_iff, eq_iff_key, eqKey_cls]

theorem unitScale_pos : 0 < unitScale := by unfold unitScale; exact Nat.two_pow_pos 1074

theorem unitScale_int_pos : (0 : Int) < (unitScale : Int) := Int.natCast_pos.mpr unitScale_pos

theorem icmp_scale (i j : Int) : icmp (i * (unitScale : Int)) (j * (unitScale : Int)) = icmp i j :=
  cmp_eq_icmp (fun h => (icmp_lt_iff _ _).mpr (Int.mul_lt_mul_of_pos_right h unitScale_int_pos))
    (fun h => (icmp_lt_iff _ _).mpr (Int.mul_lt_mul_of_pos_right h unitScale_int_pos)) (fun h => by rw [h])

theorem scale_inj (i j : Int) : i * (unitScale : Int) = j * (unitScale : Int) ↔ i = j :=
  ⟨Int.eq_of_mul_eq_mul_right (Int.ne_of_gt unitScale_int_pos), fun h => by rw [h]⟩

theorem sortCmp_nonnull (D : Defects) (a b : Value) (ha : a.cls ≠ 0) (hb : b.cls ≠ 0) :
    sortCmp D a b = (partialCmp D a b).getD .eq := by
  unfold sortCmp
  split
  · exact absurd rfl ha
  · exact absurd rfl ha
  · exact absurd rfl hb
  · rfl

/-- the class is a function of the kind -/
theorem cls_eq_sample (a : Value) : a.cls = a.kind.sample.cls := by cases a <;> rfl

theorem cls_zero_iff (a : Value) : a.cls = 0 ↔ a = .null := by
  cases a <;> simp [Value.cls]

end AxVerif.Value
