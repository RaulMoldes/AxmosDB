/- One little-endian fact for any width (`rdBytes_leBytes`); the model's fixed 16- and 32-bit shapes are instances,
   the 64-bit one is two 32-bit halves. -/
import AxVerif.Model.Bytes
namespace AxVerif

def leBytes : Nat → Nat → Bytes
  | 0, _ => []
  | w + 1, n => UInt8.ofNat n :: leBytes w (n / 256)

def rdBytes : Bytes → Nat
  | [] => 0
  | b :: bs => b.toNat + 256 * rdBytes bs

theorem rdBytes_leBytes (w n : Nat) (h : n < 256 ^ w) : rdBytes (leBytes w n) = n := by
  induction w generalizing n with
  | zero => rw [Nat.pow_zero, Nat.lt_one_iff] at h; subst h; rfl
  | succ w ih =>
    rw [Nat.pow_succ, Nat.mul_comm] at h
    rw [leBytes, rdBytes, ih _ (Nat.div_lt_of_lt_mul h), UInt8.toNat_ofNat']
    exact Nat.mod_add_div n 256

theorem rdBytes_append (a b : Bytes) : rdBytes (a ++ b) = rdBytes a + 256 ^ a.length * rdBytes b := by
  induction a with
  | nil => rw [List.nil_append, rdBytes, List.length_nil, Nat.pow_zero, Nat.one_mul, Nat.zero_add]
  | cons x a ih =>
    rw [List.cons_append, rdBytes, rdBytes, ih, List.length_cons, Nat.pow_succ, Nat.mul_add, Nat.add_assoc,
      Nat.mul_comm (256 ^ a.length) 256, Nat.mul_assoc]

theorem rdBytes_lt (bs : Bytes) : rdBytes bs < 256 ^ bs.length := by
  induction bs with
  | nil => exact Nat.one_pos
  | cons b bs ih =>
    have := b.toNat_lt
    rw [rdBytes, List.length_cons, Nat.pow_succ]
    omega

/-- not by computation: `le32` divides by 65536 and 16777216, `leBytes` by 256 again and again -/
theorem le32_eq (n : Nat) : le32 n = leBytes 4 n := by
  simp only [le32, leBytes, Nat.div_div_eq_div_mul]

theorem rd32_eq (a b c d : UInt8) : rd32 a b c d = rdBytes [a, b, c, d] := by
  simp only [rd32, rdBytes, Nat.mul_add, ← Nat.mul_assoc, ← Nat.add_assoc, Nat.reduceMul, Nat.mul_zero, Nat.add_zero]

@[simp] theorem le32_length (n : Nat) : (le32 n).length = 4 := rfl
@[simp] theorem le16_length (n : Nat) : (le16 n).length = 2 := rfl
@[simp] theorem le64_length (n : Nat) : (le64 n).length = 8 := rfl

theorem rd16_ofNat (n : Nat) (h : n < 2^16) :
    rd16 (UInt8.ofNat n) (UInt8.ofNat (n / 256)) = n := by
  -- `rd16` of two bytes is `rdBytes` of them, and `le16 n` is `leBytes 2 n`, both by computation
  exact rdBytes_leBytes 2 n h

theorem rd32_ofNat (n : Nat) (h : n < 2^32) :
    rd32 (UInt8.ofNat n) (UInt8.ofNat (n / 256)) (UInt8.ofNat (n / 65536)) (UInt8.ofNat (n / 16777216)) = n := by
  rw [rd32_eq]; exact (congrArg rdBytes (le32_eq n)).trans (rdBytes_leBytes 4 n h)

theorem take16_le16 (n : Nat) (rest : Bytes) (h : n < 2^16) :
    take16 (le16 n ++ rest) = some (n, rest) := by
  simp only [le16, List.cons_append, List.nil_append, take16, rd16_ofNat n h]

theorem take32_le32 (n : Nat) (rest : Bytes) (h : n < 2^32) :
    take32 (le32 n ++ rest) = some (n, rest) := by
  simp only [le32, List.cons_append, List.nil_append, take32, rd32_ofNat n h]

theorem take64_le64 (n : Nat) (rest : Bytes) (h : n < 2^64) :
    take64 (le64 n ++ rest) = some (n, rest) := by
  have hlo : n % 4294967296 < 2^32 := Nat.mod_lt _ (by decide)
  have hhi : n / 4294967296 < 2^32 := Nat.div_lt_of_lt_mul h
  simp only [take64, le64, List.append_assoc, take32_le32 _ _ hlo, take32_le32 _ _ hhi, Nat.mod_add_div]

theorem take32_length {d rest : Bytes} {n : Nat} (h : take32 d = some (n, rest)) :
    d.length = rest.length + 4 ∧ n < 2^32 := by
  match d, h with
  | a :: b :: c :: e :: r, h =>
    simp only [take32, Option.some.injEq, Prod.mk.injEq] at h
    obtain ⟨rfl, rfl⟩ := h
    have : rd32 a b c e < 256 ^ 4 := rd32_eq a b c e ▸ rdBytes_lt [a, b, c, e]
    exact ⟨rfl, this⟩

end AxVerif
