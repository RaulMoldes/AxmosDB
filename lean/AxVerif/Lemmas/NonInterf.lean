/-
  Statements on different tables do not interfere (C14, statement level), on the abstract machine `Db.Spec` and histories
  of autocommit `SELECT` / `INSERT` / `DELETE` (plus `tick` / `nop`).  `eraseOthers a ops` replaces every operation that is
  not a statement on `a` by `nop`, which only advances the clock, so the statements on `a` keep their positions and the
  rows they insert keep their ids; `noninterference_from`: they answer the same and leave the same rows in `a`.  For
  catalogs without constraints, `sim_from`: dropping the `nop`s changes no answer and nothing observable (`keys`) of the
  rows; with `dropNops_eraseOthers` this is what lets two statements on different tables be swapped
  (`C14.statements_on_different_tables_commute`).
-/
import AxVerif.Lemmas.DbCons
namespace AxVerif.Db.NI
open AxVerif.Db

def onTable (a : String) (r : ARow) : Bool := r.table == a

def proj (a : String) (v : View) : View := v.filter (onTable a)

def stmtTable : Stmt → String
  | .sel t _ => t | .ins t _ => t | .upd t _ _ _ _ => t | .del t _ => t

def simpleStmt : Stmt → Bool
  | .upd _ _ _ _ _ => false
  | _ => true

def okOp : Op → Bool
  | .auto st => simpleStmt st
  | .tick => true
  | .nop => true
  | _ => false

def touches (a : String) : Op → Bool
  | .auto st => stmtTable st == a
  | _ => false

def eraseOthers (a : String) (ops : List Op) : List Op := ops.map (fun op => if touches a op then op else .nop)

theorem mem_proj {a : String} {v : View} {r : ARow} : r ∈ proj a v ↔ r ∈ v ∧ r.table = a := by
  simp only [proj, List.mem_filter, onTable, beq_iff_eq]

theorem proj_proj (a : String) (v : View) : proj a (proj a v) = proj a v := by
  simp only [proj, List.filter_filter, Bool.and_self]

theorem proj_append (a : String) (v w : View) : proj a (v ++ w) = proj a v ++ proj a w :=
  List.filter_append ..

theorem proj_snoc (t : String) (v : View) (rid : Rid) (x : List Val) :
    proj t (v ++ [⟨rid, t, x⟩]) = proj t v ++ [⟨rid, t, x⟩] :=
  (List.filter_append ..).trans (congrArg (proj t v ++ ·) (List.filter_cons_of_pos (decide_eq_true rfl)))

theorem filter_proj (t : String) (f : ARow → Bool) (v : View) :
    (proj t v).filter (fun r => r.table == t && f r) = v.filter (fun r => r.table == t && f r) := by
  unfold proj
  rw [List.filter_filter]
  apply List.filter_congr
  intro r _
  simp only [onTable]
  cases r.table == t <;> simp only [Bool.true_and, Bool.and_true, Bool.false_and]

theorem dupKey_proj (v : View) (t : String) (self : Option Rid) (cols : List Nat) (vals : List Val) :
    dupKey (proj t v) t self cols vals = dupKey v t self cols vals := by
  have h : ∀ (w : View) (q : ARow → Bool), w.any (fun r => r.table == t && q r) = (proj t w).any q :=
    fun _ _ => List.any_filter.symm
  unfold dupKey
  simp only [Bool.and_assoc]
  rw [h, h, proj_proj]

theorem uniqueOk_proj (v : View) (ts : TableSchema) (self : Option Rid) (vals : List Val) :
    uniqueOk Option.none (proj ts.name v) ts self vals = uniqueOk Option.none v ts self vals := by
  simp only [uniqueOk, dupKey_proj]

theorem evalQuery_proj (t : String) (p : Option (Nat × CmpOp × Val)) (v : View) :
    evalQuery t p (proj t v) = evalQuery t p v := by
  unfold evalQuery
  rw [filter_proj t (fun r => rowMatches p r.vals)]

theorem planDel_eq (t : String) (p : Option (Nat × CmpOp × Val)) (v : View) : planDel t p v =
    ⟨(v.filter (fun r => r.table == t && rowMatches p r.vals)).map (fun r => Effect.del r.rid),
     .okN (v.filter (fun r => r.table == t && rowMatches p r.vals)).length⟩ := by
  induction v with
  | nil => rfl
  | cons r rs ih =>
    rw [planDel, ih, List.filter_cons]
    cases r.table == t && rowMatches p r.vals <;> rfl

theorem planDel_proj (t : String) (p : Option (Nat × CmpOp × Val)) (v : View) :
    planDel t p (proj t v) = planDel t p v := by
  rw [planDel_eq, planDel_eq, filter_proj t (fun r => rowMatches p r.vals)]

theorem planIns_cons (ts : TableSchema) (clock : Nat) (v : View) (r : List Val) (rs : List (List Val)) (j : Nat) :
    planIns ts clock Option.none v (r :: rs) j =
      match castRow ts.cols r with
      | .error e => ⟨[], .err e⟩
      | .ok x =>
        if notNullOk ts.cols x && uniqueOk Option.none v ts Option.none x then
          (planIns ts clock Option.none (v ++ [⟨(clock, j), ts.name, x⟩]) rs (j + 1)).cons (.ins (clock, j) ts.name x)
        else ⟨[], .err .constraint⟩ := by
  rw [planIns]
  cases castRow ts.cols r with
  | error e => rfl
  | ok x =>
    dsimp only
    cases notNullOk ts.cols x <;> cases uniqueOk Option.none v ts Option.none x <;> rfl

theorem planIns_proj (ts : TableSchema) (clock : Nat) (rows : List (List Val)) (v : View) (j : Nat) :
    planIns ts clock Option.none (proj ts.name v) rows j = planIns ts clock Option.none v rows j := by
  induction rows generalizing v j with
  | nil => rfl
  | cons r rs ih =>
    rw [planIns_cons, planIns_cons]
    cases castRow ts.cols r with
    | error e => rfl
    | ok x =>
      dsimp only
      rw [uniqueOk_proj, ← proj_snoc, ih]

theorem findTable_name {cat : Catalog} {t : String} {ts : TableSchema} (h : findTable cat t = some ts) : ts.name = t := by
  unfold findTable at h
  have := List.find?_some h
  exact beq_iff_eq.1 this

inductive Planned (cat : Catalog) (t : String) : (Nat → View → Plan) → Prop
  | err (e : Err) : Planned cat t fun _ _ => ⟨[], .err e⟩
  | sel (bp : Option (Nat × CmpOp × Val)) : Planned cat t fun _ v => ⟨[], .rows (evalQuery t bp v)⟩
  | ins (ts : TableSchema) (rows : List (List Val)) (hf : findTable cat t = some ts) :
      Planned cat t fun clock v => planIns ts clock Option.none v rows 0
  | del (bp : Option (Nat × CmpOp × Val)) : Planned cat t fun _ v => planDel t bp v

theorem planStmt_cases (cat : Catalog) (st : Stmt) (hs : simpleStmt st = true) :
    ∃ f, Planned cat (stmtTable st) f ∧ ∀ clock v, planStmt Option.none cat clock 0 v st = f clock v := by
  refine ⟨fun clock v => planStmt Option.none cat clock 0 v st, ?_, fun _ _ => rfl⟩
  cases st with
  | upd t c a x p => cases hs
  | sel t p | del t p =>
    -- both look the table up and bind the predicate; what differs is what they do with the rows that match
    show Planned cat t _
    simp only [planStmt]
    cases findTable cat t with
    | none => exact .err _
    | some ts =>
      dsimp only
      cases bindPred ts p with
      | error e => exact .err e
      | ok bp => first | exact .sel bp | exact .del bp
  | ins t rows =>
    show Planned cat t _
    simp only [planStmt]
    cases hf : findTable cat t with
    | none => exact .err _
    | some ts =>
      dsimp only
      cases rows.any (fun r => r.length != ts.cols.length) with
      | true => exact .err _
      | false => exact .ins ts rows hf

theorem planStmt_proj (cat : Catalog) (clock : Nat) (v : View) (st : Stmt) (hs : simpleStmt st = true) :
    planStmt Option.none cat clock 0 (proj (stmtTable st) v) st = planStmt Option.none cat clock 0 v st := by
  obtain ⟨f, hf, h⟩ := planStmt_cases cat st hs
  rw [h, h]
  cases hf with
  | err e => rfl
  | sel bp => exact congrArg (fun r => Plan.mk [] (.rows r)) (evalQuery_proj ..)
  | ins ts rows hf => rw [← findTable_name hf]; exact planIns_proj ..
  | del bp => exact planDel_proj ..

/-- the committed rows after a transaction that started from `v` and made the effects `effs` has committed -/
def post (v : View) (effs : List Effect) : View := takeOver v (v.applyAll effs) (effs.map Effect.rid)

def InsRun (clock : Nat) (t : String) : Nat → List Effect → Prop
  | _, [] => True
  | j, e :: es => (∃ vals, e = Effect.ins (clock, j) t vals) ∧ InsRun clock t (j + 1) es

def insRows : List Effect → View
  | [] => []
  | .ins rid t vals :: es => ⟨rid, t, vals⟩ :: insRows es
  | _ :: es => insRows es

def DelsOf (t : String) (v : View) (effs : List Effect) : Prop :=
  ∀ e ∈ effs, ∃ r ∈ v, r.table = t ∧ e = Effect.del r.rid

def Fresh (clock : Nat) (v : View) : Prop := ∀ r ∈ v, r.rid.1 < clock

structure Tidy (clock : Nat) (v : View) : Prop where
  fresh : Fresh clock v
  sorted : SortedV v

theorem Tidy.succ {clock : Nat} {v : View} (h : Tidy clock v) : Tidy (clock + 1) v :=
  ⟨fun r hr => Nat.lt_succ_of_lt (h.fresh r hr), h.sorted⟩

theorem planIns_insRun (ts : TableSchema) (clock : Nat) {pb : Option Probe} (rows : List (List Val)) (v : View) (j : Nat) :
    InsRun clock ts.name j (planIns ts clock pb v rows j).effs := by
  fun_induction planIns ts clock pb v rows j with
  | case5 pb v r rs j x hcast hnotNull hunique e ih => exact ⟨⟨x, rfl⟩, ih⟩
  | _ => trivial

theorem planDel_delsOf (t : String) (p : Option (Nat × CmpOp × Val)) (v : View) : DelsOf t v (planDel t p v).effs := by
  rw [planDel_eq]
  intro e he
  obtain ⟨r, hr, rfl⟩ := List.mem_map.1 he
  obtain ⟨hrv, hm⟩ := List.mem_filter.1 hr
  rw [Bool.and_eq_true, beq_iff_eq] at hm
  exact ⟨r, hrv, hm.1, rfl⟩

theorem applyAll_insRun {clock : Nat} {t : String} {effs : List Effect} {j : Nat} (v : View) (h : InsRun clock t j effs) :
    v.applyAll effs = v ++ insRows effs := by
  induction effs generalizing j v with
  | nil => exact (List.append_nil v).symm
  | cons e es ih =>
    obtain ⟨⟨vals, rfl⟩, hes⟩ := h
    exact (ih (v ++ [⟨(clock, j), t, vals⟩]) hes).trans (List.append_assoc ..)

theorem insRows_table {clock : Nat} {t : String} {effs : List Effect} {j : Nat} (h : InsRun clock t j effs) :
    ∀ r ∈ insRows effs, r.table = t ∧ r.rid.1 = clock ∧ j ≤ r.rid.2 := by
  induction effs generalizing j with
  | nil => exact fun _ hr => nomatch hr
  | cons e es ih =>
    obtain ⟨⟨vals, rfl⟩, hes⟩ := h
    intro r hr
    rcases List.mem_cons.1 hr with rfl | hr
    · exact ⟨rfl, rfl, Nat.le_refl _⟩
    · obtain ⟨h1, h2, h3⟩ := ih hes r hr
      exact ⟨h1, h2, Nat.le_of_succ_le h3⟩

theorem rids_insRun {clock : Nat} {t : String} {effs : List Effect} {j : Nat} (h : InsRun clock t j effs) :
    effs.map Effect.rid = (insRows effs).map (·.rid) := by
  induction effs generalizing j with
  | nil => rfl
  | cons e es ih =>
    obtain ⟨⟨vals, rfl⟩, hes⟩ := h
    exact congrArg ((clock, j) :: ·) (ih hes)

/-- the rows of an insert run come behind the rows there are, in the order of their ids -/
theorem sorted_append_insRows {clock : Nat} {t : String} {v : View} (ht : Tidy clock v) {effs : List Effect} {j : Nat}
    (h : InsRun clock t j effs) : SortedV (v ++ insRows effs) := by
  refine List.pairwise_append.2 ⟨ht.sorted, ?_, fun y hy n hn => .inl ((insRows_table h n hn).2.1 ▸ ht.fresh y hy)⟩
  induction effs generalizing j with
  | nil => exact List.Pairwise.nil
  | cons e es ih =>
    obtain ⟨⟨vals, rfl⟩, hes⟩ := h
    refine List.pairwise_cons.2 ⟨fun y hy => ?_, ih hes⟩
    have hy' := insRows_table hes y hy
    exact .inr ⟨hy'.2.1.symm, Nat.lt_of_succ_le hy'.2.2⟩

/-- closed form for an `INSERT`: both sides are sorted by row id and have the same rows -/
theorem post_insRun {clock : Nat} {t : String} {v : View} (ht : Tidy clock v) {effs : List Effect} {j : Nat}
    (h : InsRun clock t j effs) : post v effs = v ++ insRows effs := by
  have hs := sorted_append_insRows ht h
  have hmine : v.applyAll effs = v ++ insRows effs := applyAll_insRun v h
  refine sorted_ext _ _ (sorted_takeOver _ _ _ ht.sorted (hmine ▸ hs)) hs fun y => ?_
  rw [post, mem_takeOver, hmine, rids_insRun h, List.mem_append]
  constructor
  · exact fun hy => hy.elim (fun h1 => h1.1) (fun h1 => .inl h1.1)
  · rintro (hy | hy)
    · refine .inr ⟨hy, Bool.eq_false_iff.2 fun hc => ?_⟩
      obtain ⟨n, hn, hnr⟩ := List.mem_map.1 (List.contains_iff_mem.1 hc)
      have h2 := ht.fresh y hy
      rw [← hnr, (insRows_table h n hn).2.1] at h2
      exact Nat.lt_irrefl _ h2
    · exact .inl ⟨.inr hy, List.contains_iff_mem.2 (List.mem_map.2 ⟨y, hy, rfl⟩)⟩

theorem apply_del (v : View) (rid : Rid) : v.apply (.del rid) = v.filter (fun r => !(r.rid == rid)) := by
  have h : (fun r : ARow => r.apply (.del rid)) = Option.guard (fun r => !(r.rid == rid)) := by
    funext r
    show (if r.rid = rid then none else some r) = if (!(r.rid == rid)) = true then some r else none
    by_cases hr : r.rid = rid
    · rw [if_pos hr, beq_iff_eq.2 hr]; rfl
    · rw [if_neg hr, beq_eq_false_iff_ne.2 hr]; rfl
  show v.filterMap _ = _
  rw [h]
  exact congrFun List.filterMap_eq_filter v

def AllDel (effs : List Effect) : Prop := ∀ e ∈ effs, ∃ rid, e = Effect.del rid

theorem applyAll_allDel (effs : List Effect) (v : View) (h : AllDel effs) :
    v.applyAll effs = v.filter (fun r => !(effs.map Effect.rid).contains r.rid) := by
  induction effs generalizing v with
  | nil => exact (List.filter_eq_self.2 (fun _ _ => rfl)).symm
  | cons e es ih =>
    obtain ⟨rid, rfl⟩ := h _ List.mem_cons_self
    show (v.apply (.del rid)).applyAll es = _
    rw [ih _ (fun x hx => h x (List.mem_cons_of_mem _ hx)), apply_del, List.filter_filter]
    apply List.filter_congr
    intro r _
    simp only [List.map_cons, List.contains_cons, Effect.rid, Bool.not_or, Bool.and_comm]

theorem post_allDel (v : View) {effs : List Effect} (h : AllDel effs) :
    post v effs = v.filter (fun r => !(effs.map Effect.rid).contains r.rid) := by
  unfold post takeOver
  rw [applyAll_allDel effs v h]
  have : (v.filter (fun r => !(effs.map Effect.rid).contains r.rid)).filter (fun r => (effs.map Effect.rid).contains r.rid) = [] := by
    rw [List.filter_filter, List.filter_eq_nil_iff]
    intro r _
    cases (effs.map Effect.rid).contains r.rid <;> simp
  rw [this]
  rfl

theorem post_nil (v : View) : post v [] = v := by
  have h : AllDel [] := by intro e he; cases he
  rw [post_allDel v h]
  exact List.filter_eq_self.2 (fun _ _ => rfl)

def autoStmt (cat : Catalog) (clock : Nat) (v : View) (st : Stmt) : View × Out :=
  let p := planStmt Option.none cat clock 0 v st
  if p.out.isErr then (v, .stmt p.out)
  else if constraintsHold cat (post v p.effs) then (post v p.effs, .stmt p.out)
  else (v, .refused .constraint)

theorem stmt_beginTxn (α : Spec.State) (st : Stmt) : Spec.stmt α.cat α.clock α.beginTxn 0 st =
    (if (planStmt Option.none α.cat α.clock 0 α.committed st).out.isErr then α.beginTxn
     else ⟨α.committed, (planStmt Option.none α.cat α.clock 0 α.committed st).effs, α.log.length⟩,
     planStmt Option.none α.cat α.clock 0 α.committed st) := by
  unfold Spec.stmt
  show (if (planStmt Option.none α.cat α.clock 0 α.committed st).out.isErr = true then _ else _) = _
  split <;> rfl

theorem commitC_beginTxn (α : Spec.State) (effs : List Effect) : α.commitC ⟨α.committed, effs, α.log.length⟩ =
    if constraintsHold α.cat (post α.committed effs) then
      ({ α with committed := post α.committed effs, log := α.log ++ [(α.log.length, effs.map Effect.rid)] }, Option.none)
    else (α, some .constraint) := by
  -- nothing was logged since the transaction began
  have hc : Spec.conflict α.log ⟨α.committed, effs, α.log.length⟩ = false := by
    simp only [Spec.conflict, List.drop_length, List.any_nil]
  rw [spec_commitC_eq, hc, if_neg Bool.false_ne_true]
  rfl

theorem step_auto (α : Spec.State) (st : Stmt) :
    (Spec.step α (.auto st)).1.committed = (autoStmt α.cat α.clock α.committed st).1 ∧
    (Spec.step α (.auto st)).2 = (autoStmt α.cat α.clock α.committed st).2 ∧
    (Spec.step α (.auto st)).1.clock = α.clock + 1 := by
  simp only [autoStmt, Spec.step, Spec.stepCore]
  rw [stmt_beginTxn]
  cases (planStmt Option.none α.cat α.clock 0 α.committed st).out.isErr
  · simp only [Bool.false_eq_true, if_false]
    rw [commitC_beginTxn]
    cases constraintsHold α.cat (post α.committed (planStmt Option.none α.cat α.clock 0 α.committed st).effs) <;>
      exact ⟨rfl, rfl, rfl⟩
  · exact ⟨rfl, rfl, rfl⟩

theorem autoStmt_rows (cat : Catalog) (clock : Nat) (v : View) (st : Stmt) :
    (autoStmt cat clock v st).1 = v ∨ (autoStmt cat clock v st).1 = post v (planStmt Option.none cat clock 0 v st).effs := by
  fun_cases autoStmt cat clock v st with
  | case1 p herr => exact .inl rfl
  | case2 p herr hholds => exact .inr rfl
  | case3 p herr hfails => exact .inl rfl

def Kind (clock : Nat) (t : String) (v : View) (effs : List Effect) : Prop :=
  InsRun clock t 0 effs ∨ DelsOf t v effs

theorem allDel_of_delsOf {t : String} {v : View} {effs : List Effect} (h : DelsOf t v effs) : AllDel effs := by
  intro e he
  obtain ⟨r, _, _, rfl⟩ := h e he
  exact ⟨r.rid, rfl⟩

theorem plan_kind (cat : Catalog) (clock : Nat) (v : View) (st : Stmt) (hs : simpleStmt st = true) :
    Kind clock (stmtTable st) v (planStmt Option.none cat clock 0 v st).effs := by
  obtain ⟨f, hf, h⟩ := planStmt_cases cat st hs
  rw [h]
  cases hf with
  | err e => exact .inl trivial
  | sel bp => exact .inl trivial
  | ins ts rows hf => rw [← findTable_name hf]; exact .inl (planIns_insRun ts clock rows v 0)
  | del bp => exact .inr (planDel_delsOf _ bp v)

theorem proj_insRows (a : String) {clock : Nat} {t : String} {effs : List Effect} {j : Nat} (h : InsRun clock t j effs) :
    proj a (insRows effs) = if t = a then insRows effs else [] := by
  have ht := insRows_table h
  by_cases e : t = a
  · rw [if_pos e]
    exact List.filter_eq_self.2 fun r hr => beq_iff_eq.2 ((ht r hr).1.trans e)
  · rw [if_neg e]
    exact List.filter_eq_nil_iff.2 fun r hr hc => e ((ht r hr).1.symm.trans (beq_iff_eq.1 hc))

theorem filter_comm (p q : ARow → Bool) (v : View) : (v.filter p).filter q = (v.filter q).filter p := by
  rw [List.filter_filter, List.filter_filter]
  exact List.filter_congr fun r _ => Bool.and_comm _ _

theorem proj_post_same {a : String} {clock : Nat} {v : View} {effs : List Effect} (ht : Tidy clock v)
    (hk : Kind clock a v effs) : proj a (post v effs) = post (proj a v) effs := by
  rcases hk with h | h
  · rw [post_insRun ht h, post_insRun ⟨fun r hr => ht.fresh r (mem_proj.1 hr).1, ht.sorted.filter _⟩ h, proj_append,
      proj_insRows a h, if_pos rfl]
  · rw [post_allDel v (allDel_of_delsOf h), post_allDel (proj a v) (allDel_of_delsOf h)]
    exact filter_comm _ _ v

theorem rid_inj {v : View} (hs : SortedV v) {r s : ARow} (hr : r ∈ v) (hs' : s ∈ v) (h : r.rid = s.rid) : r = s := by
  induction v with
  | nil => cases hr
  | cons x xs ih =>
    obtain ⟨hx, hxs⟩ := List.pairwise_cons.1 hs
    rcases List.mem_cons.1 hr with rfl | hr' <;> rcases List.mem_cons.1 hs' with rfl | hs''
    · rfl
    · exact (ridLt_irrefl _ (h ▸ hx s hs'')).elim
    · exact (ridLt_irrefl _ (h ▸ hx r hr')).elim
    · exact ih hxs hr' hs''

theorem proj_post_other {a b : String} (hab : b ≠ a) {clock : Nat} {v : View} {effs : List Effect} (ht : Tidy clock v)
    (hk : Kind clock b v effs) : proj a (post v effs) = proj a v := by
  rcases hk with h | hd
  · rw [post_insRun ht h, proj_append, proj_insRows a h, if_neg hab, List.append_nil]
  · rw [post_allDel v (allDel_of_delsOf hd)]
    unfold proj
    rw [filter_comm, List.filter_eq_self]
    intro r hr
    obtain ⟨hrv, hra⟩ := mem_proj.1 hr
    cases hc : (effs.map Effect.rid).contains r.rid with
    | false => rfl
    | true =>
      exfalso
      obtain ⟨e, he, her⟩ := List.mem_map.1 (List.contains_iff_mem.1 hc)
      obtain ⟨s, hs, hst, rfl⟩ := hd e he
      have := rid_inj ht.sorted hs hrv her
      subst this
      exact hab (hst.symm.trans hra)

def rowOk (cat : Catalog) (w : View) (r : ARow) : Bool :=
  match findTable cat r.table with
  | Option.none => true
  | some ts => notNullOk ts.cols r.vals && uniqueOk Option.none w ts (some r.rid) r.vals

theorem constraintsHold_eq (cat : Catalog) (w : View) : constraintsHold cat w = w.all (rowOk cat w) := rfl

theorem rowOk_proj (cat : Catalog) (w : View) {r : ARow} {a : String} (ha : r.table = a) :
    rowOk cat (proj a w) r = rowOk cat w r := by
  subst ha
  unfold rowOk
  cases hf : findTable cat r.table with
  | none => rfl
  | some ts =>
    dsimp only
    rw [← findTable_name hf, uniqueOk_proj]

theorem constraintsHold_local (cat : Catalog) (a : String) (v w : View) (hv : constraintsHold cat v = true)
    (hsame : ∀ b, b ≠ a → proj b w = proj b v) : constraintsHold cat w = constraintsHold cat (proj a w) := by
  rw [Bool.eq_iff_iff, constraintsHold_eq, constraintsHold_eq, List.all_eq_true, List.all_eq_true]
  constructor
  · intro h r hr
    obtain ⟨hrw, hra⟩ := mem_proj.1 hr
    rw [rowOk_proj cat w hra]
    exact h r hrw
  · intro h r hr
    by_cases hra : r.table = a
    · rw [← rowOk_proj cat w hra]
      exact h r (mem_proj.2 ⟨hr, hra⟩)
    · have hrv : r ∈ proj r.table v := hsame r.table hra ▸ mem_proj.2 ⟨hr, rfl⟩
      rw [← rowOk_proj cat w rfl, hsame r.table hra, rowOk_proj cat v rfl]
      exact List.all_eq_true.1 hv r (mem_proj.1 hrv).1

theorem autoStmt_proj (cat : Catalog) (clock : Nat) (v : View) (st : Stmt) (hs : simpleStmt st = true)
    (ht : Tidy clock v) (hch : constraintsHold cat v = true) :
    autoStmt cat clock (proj (stmtTable st) v) st =
      (proj (stmtTable st) (autoStmt cat clock v st).1, (autoStmt cat clock v st).2) := by
  have hk := plan_kind cat clock v st hs
  have hpost := proj_post_same ht hk
  have hch' := constraintsHold_local cat (stmtTable st) v _ hch
    (fun b hb => proj_post_other (Ne.symm hb) ht hk)
  unfold autoStmt
  dsimp only
  rw [planStmt_proj cat clock v st hs, ← hpost, ← hch']
  by_cases he : (planStmt Option.none cat clock 0 v st).out.isErr = true
  · rw [if_pos he, if_pos he]
  · rw [if_neg he, if_neg he]
    by_cases hc : constraintsHold cat (post v (planStmt Option.none cat clock 0 v st).effs) = true
    · rw [if_pos hc, if_pos hc]
    · rw [if_neg hc, if_neg hc]

theorem autoStmt_other (a : String) (cat : Catalog) (clock : Nat) (v : View) (st : Stmt) (hs : simpleStmt st = true)
    (hne : stmtTable st ≠ a) (ht : Tidy clock v) : proj a (autoStmt cat clock v st).1 = proj a v := by
  rcases autoStmt_rows cat clock v st with h | h <;> rw [h]
  exact proj_post_other hne ht (plan_kind cat clock v st hs)

structure Inv (α : Spec.State) : Prop where
  tidy : Tidy α.clock α.committed
  ch : constraintsHold α.cat α.committed = true

theorem inv_init (cat : Catalog) : Inv (Spec.State.init cat) :=
  ⟨⟨fun _ hr => (nomatch hr), List.Pairwise.nil⟩, rfl⟩

/-- whatever is committed: the rows come from the transaction's view or were there, and `takeOver` keeps the order -/
theorem tidy_post {clock : Nat} {t : String} {v : View} {effs : List Effect} (ht : Tidy clock v)
    (hk : Kind clock t v effs) : Tidy (clock + 1) (post v effs) := by
  have hmine : Tidy (clock + 1) (v.applyAll effs) := by
    rcases hk with h | h
    · rw [applyAll_insRun v h]
      refine ⟨fun r hr => (List.mem_append.1 hr).elim (ht.succ.fresh r) fun h1 => ?_, sorted_append_insRows ht h⟩
      rw [(insRows_table h r h1).2.1]
      exact Nat.lt_succ_self _
    · rw [applyAll_allDel effs v (allDel_of_delsOf h)]
      exact ⟨fun r hr => ht.succ.fresh r (List.mem_filter.1 hr).1, ht.sorted.filter _⟩
  refine ⟨fun r hr => ?_, sorted_takeOver _ _ _ ht.sorted hmine.sorted⟩
  exact ((mem_takeOver ..).1 hr).elim (fun h => hmine.fresh r h.1) fun h => ht.succ.fresh r h.1

theorem inv_step {α : Spec.State} {op : Op} (h : Inv α) (hop : okOp op = true) : Inv (Spec.step α op).1 := by
  refine ⟨?_, spec_step_holds α op h.ch⟩
  cases op with
  | auto st =>
    obtain ⟨e1, _, e3⟩ := step_auto α st
    rw [e1, e3]
    rcases autoStmt_rows α.cat α.clock α.committed st with hrows | hrows <;> rw [hrows]
    · exact h.tidy.succ
    · exact tidy_post h.tidy (plan_kind α.cat α.clock α.committed st hop)
  | tick => exact h.tidy.succ
  | nop => exact h.tidy.succ
  | _ => cases hop

structure Erased (a : String) (α α' : Spec.State) : Prop where
  cat : α'.cat = α.cat
  clock : α'.clock = α.clock
  rows : α'.committed = proj a α.committed

theorem touches_nop (a : String) : touches a .nop = false := rfl
theorem touches_tick (a : String) : touches a .tick = false := rfl

theorem erased_step (a : String) {α α' : Spec.State} {op : Op} (hop : okOp op = true) (hi : Inv α) (hr : Erased a α α') :
    Erased a (Spec.step α op).1 (Spec.step α' (if touches a op then op else .nop)).1 ∧
    (touches a op = true → (Spec.step α op).2 = (Spec.step α' (if touches a op then op else .nop)).2) := by
  have idle : ∀ β : Spec.State, β.cat = α.cat → β.clock = α.clock + 1 → proj a β.committed = proj a α.committed →
      Erased a β (Spec.step α' .nop).1 := fun β h1 h2 h3 =>
    ⟨hr.cat.trans h1.symm, (congrArg (· + 1) hr.clock).trans h2.symm, hr.rows.trans h3.symm⟩
  cases op with
  | auto st =>
    obtain ⟨e1, e2, e3⟩ := step_auto α st
    by_cases ht : stmtTable st = a
    · have htouch : touches a (.auto st) = true := beq_iff_eq.2 ht
      obtain ⟨f1, f2, f3⟩ := step_auto α' st
      rw [hr.cat, hr.clock, hr.rows, ← ht, autoStmt_proj α.cat α.clock α.committed st hop hi.tidy hi.ch]
        at f1 f2
      rw [if_pos htouch]
      exact ⟨⟨by rw [spec_step_cat, spec_step_cat, hr.cat], by rw [f3, e3, hr.clock], by rw [f1, e1, ht]⟩,
        fun _ => e2.trans f2.symm⟩
    · have htouch : touches a (.auto st) = false := beq_eq_false_iff_ne.2 ht
      rw [htouch]
      exact ⟨idle _ (spec_step_cat ..) e3 (by rw [e1]; exact autoStmt_other a _ _ _ st hop ht hi.tidy),
        fun h => nomatch h⟩
  | tick => exact ⟨idle _ rfl rfl rfl, fun h => nomatch h⟩
  | nop => exact ⟨idle _ rfl rfl rfl, fun h => nomatch h⟩
  | _ => cases hop

def answersOn (a : String) : List Op → List Out → List Out
  | op :: ops, o :: os => if touches a op then o :: answersOn a ops os else answersOn a ops os
  | _, _ => []

theorem eraseOthers_cons (a : String) (op : Op) (ops : List Op) :
    eraseOthers a (op :: ops) = (if touches a op then op else .nop) :: eraseOthers a ops := rfl

theorem noninterference_from (a : String) : ∀ (ops : List Op) (α α' : Spec.State), ops.all okOp = true → Inv α → Erased a α α' →
    answersOn a ops (Spec.outs α ops) = answersOn a (eraseOthers a ops) (Spec.outs α' (eraseOthers a ops)) ∧
    proj a (Spec.final α ops).committed = (Spec.final α' (eraseOthers a ops)).committed := by
  intro ops
  induction ops with
  | nil => exact fun _ _ _ _ hr => ⟨rfl, hr.rows.symm⟩
  | cons op ops ih =>
    intro α α' hok hi hr
    rw [List.all_cons, Bool.and_eq_true] at hok
    obtain ⟨hr', ho⟩ := erased_step a hok.1 hi hr
    obtain ⟨ih1, ih2⟩ := ih _ _ hok.2 (inv_step hi hok.1) hr'
    have ht' : touches a (if touches a op then op else .nop) = touches a op := by
      by_cases h : touches a op = true
      · rw [if_pos h]
      · rw [if_neg h, touches_nop, Bool.eq_false_iff.2 h]
    rw [eraseOthers_cons]
    generalize (if touches a op then op else Op.nop) = op' at hr' ho ih1 ih2 ht' ⊢
    rw [Spec.outs, Spec.outs, Spec.final, Spec.final, answersOn, answersOn, ht', ih1]
    refine ⟨?_, ih2⟩
    by_cases ht : touches a op = true
    · rw [if_pos ht, if_pos ht, ho ht]
    · rw [if_neg ht, if_neg ht]

/-- what is observable of a row: its table and its values (not its id) -/
def keys (v : View) : List (String × List Val) := v.map (fun r => (r.table, r.vals))

def plainTable (ts : TableSchema) : Bool := ts.cols.all (fun c => !c.notNull && !c.unique) && ts.uniques.isEmpty

def plainCat (cat : Catalog) : Bool := cat.all plainTable

def isNop : Op → Bool
  | .nop => true
  | _ => false

def dropNops (ops : List Op) : List Op := ops.filter (fun op => !isNop op)

def realAnswers : List Op → List Out → List Out
  | op :: ops, o :: os => if isNop op then realAnswers ops os else o :: realAnswers ops os
  | _, _ => []

theorem dropNops_cons (op : Op) (ops : List Op) :
    dropNops (op :: ops) = if isNop op then dropNops ops else op :: dropNops ops := by
  unfold dropNops
  rw [List.filter_cons]
  cases isNop op <;> rfl

theorem isNop_of_touches {a : String} {op : Op} (h : touches a op = true) : isNop op = false := by
  cases op <;> first | rfl | cases h

theorem dropNops_eraseOthers (a : String) (ops : List Op) : dropNops (eraseOthers a ops) = ops.filter (touches a) := by
  induction ops with
  | nil => rfl
  | cons op ops ih =>
    rw [eraseOthers_cons, dropNops_cons, List.filter_cons, ih]
    by_cases h : touches a op = true
    · rw [if_pos h, if_pos h, if_neg (Bool.eq_false_iff.1 (isNop_of_touches h))]
    · rw [if_neg h, if_neg h]
      exact if_pos rfl

theorem singleKeys_plain (cols : List Col) (i : Nat) (h : cols.all (fun c => !c.notNull && !c.unique) = true) :
    singleKeys cols i = [] := by
  induction cols generalizing i with
  | nil => rfl
  | cons c cs ih =>
    rw [List.all_cons, Bool.and_eq_true, Bool.and_eq_true, Bool.not_eq_true', Bool.not_eq_true'] at h
    rw [singleKeys, h.1.2, if_neg Bool.false_ne_true]
    exact ih (i + 1) h.2

theorem notNullOk_plain (cols : List Col) (vals : List Val) (h : cols.all (fun c => !c.notNull && !c.unique) = true) :
    notNullOk cols vals = true := by
  induction cols generalizing vals with
  | nil => rfl
  | cons c cs ih =>
    cases vals with
    | nil => rfl
    | cons x xs =>
      rw [List.all_cons, Bool.and_eq_true, Bool.and_eq_true, Bool.not_eq_true', Bool.not_eq_true'] at h
      rw [notNullOk, h.1.1, ih xs h.2]
      rfl

theorem plain_of_find {cat : Catalog} {t : String} {ts : TableSchema} (hp : plainCat cat = true)
    (hf : findTable cat t = some ts) : plainTable ts = true := by
  unfold findTable at hf
  exact (List.all_eq_true.1 hp) ts (List.mem_of_find?_eq_some hf)

theorem uniqueOk_plain {ts : TableSchema} (hp : plainTable ts = true) (v : View) (self : Option Rid) (vals : List Val) :
    uniqueOk Option.none v ts self vals = true := by
  unfold plainTable at hp
  simp only [Bool.and_eq_true, List.isEmpty_iff] at hp
  simp [uniqueOk, TableSchema.keySets, singleKeys_plain ts.cols 0 hp.1, hp.2]

theorem constraintsHold_plain {cat : Catalog} (hp : plainCat cat = true) (v : View) : constraintsHold cat v = true := by
  rw [constraintsHold_eq, List.all_eq_true]
  intro r _
  unfold rowOk
  cases hf : findTable cat r.table with
  | none => rfl
  | some ts =>
    have hpt := plain_of_find hp hf
    simp only [uniqueOk_plain hpt, Bool.and_true]
    unfold plainTable at hpt
    simp only [Bool.and_eq_true] at hpt
    exact notNullOk_plain ts.cols r.vals hpt.1

theorem keys_filter_congr {v w : View} (h : keys v = keys w) (f : String × List Val → Bool) :
    keys (v.filter (fun r => f (r.table, r.vals))) = keys (w.filter (fun r => f (r.table, r.vals))) := by
  have e : ∀ u : View, keys (u.filter (fun r => f (r.table, r.vals))) = (keys u).filter f := fun _ => List.filter_map.symm
  rw [e, e, h]

theorem evalQuery_keys (t : String) (p : Option (Nat × CmpOp × Val)) (v w : View) (h : keys v = keys w) :
    evalQuery t p v = evalQuery t p w := by
  have e : ∀ u : View, evalQuery t p u = (keys (u.filter (fun r => r.table == t && rowMatches p r.vals))).map (·.2) :=
    fun u => by unfold evalQuery keys; rw [List.map_map]; rfl
  rw [e v, e w, keys_filter_congr h (fun k => k.1 == t && rowMatches p k.2)]

theorem post_planDel (t : String) (p : Option (Nat × CmpOp × Val)) (v : View) (hnd : SortedV v) :
    post v (planDel t p v).effs = v.filter (fun r => !(r.table == t && rowMatches p r.vals)) := by
  rw [post_allDel v (allDel_of_delsOf (planDel_delsOf t p v)), planDel_eq, List.map_map]
  apply List.filter_congr
  intro r hr
  refine congrArg (!·) (Bool.eq_iff_iff.2 ⟨fun hc => ?_, fun hP => ?_⟩)
  · obtain ⟨s, hs, hsr⟩ := List.mem_map.1 (List.contains_iff_mem.1 hc)
    obtain ⟨hsv, hPs⟩ := List.mem_filter.1 hs
    exact rid_inj hnd hsv hr hsr ▸ hPs
  · exact List.contains_iff_mem.2 (List.mem_map.2 ⟨r, List.mem_filter.2 ⟨hr, hP⟩, rfl⟩)

theorem planIns_keys (ts : TableSchema) (hpt : plainTable ts = true) (c c' : Nat) (rows : List (List Val)) (v w : View)
    (j j' : Nat) :
    (planIns ts c Option.none v rows j).out = (planIns ts c' Option.none w rows j').out ∧
    keys (insRows (planIns ts c Option.none v rows j).effs) = keys (insRows (planIns ts c' Option.none w rows j').effs) := by
  induction rows generalizing v w j j' with
  | nil => exact ⟨rfl, rfl⟩
  | cons r rs ih =>
    rw [planIns_cons, planIns_cons]
    cases castRow ts.cols r with
    | error e =>
      dsimp only
      exact ⟨rfl, rfl⟩
    | ok x =>
      dsimp only
      rw [uniqueOk_plain hpt, uniqueOk_plain hpt, Bool.and_true]
      by_cases hn : notNullOk ts.cols x = true
      · obtain ⟨h1, h2⟩ := ih (v ++ [⟨(c, j), ts.name, x⟩]) (w ++ [⟨(c', j'), ts.name, x⟩]) (j + 1) (j' + 1)
        rw [if_pos hn, if_pos hn]
        unfold Plan.cons
        rw [h1]
        exact ⟨rfl, congrArg ((ts.name, x) :: ·) h2⟩
      · rw [if_neg hn, if_neg hn]
        exact ⟨rfl, rfl⟩

structure Sim (α β : Spec.State) : Prop where
  cat : β.cat = α.cat
  rows : keys β.committed = keys α.committed

theorem keys_append (v w : View) : keys (v ++ w) = keys v ++ keys w := List.map_append ..

theorem plan_sim (cat : Catalog) (hp : plainCat cat = true) (c c' : Nat) (v w : View) (st : Stmt)
    (hs : simpleStmt st = true) (hv : Tidy c v) (hw : Tidy c' w) (hk : keys v = keys w) :
    (planStmt Option.none cat c 0 v st).out = (planStmt Option.none cat c' 0 w st).out ∧
    keys (post v (planStmt Option.none cat c 0 v st).effs) = keys (post w (planStmt Option.none cat c' 0 w st).effs) := by
  obtain ⟨f, hf, h⟩ := planStmt_cases cat st hs
  rw [h, h]
  cases hf with
  | err e =>
    rw [post_nil, post_nil]
    exact ⟨rfl, hk⟩
  | sel bp =>
    dsimp only
    rw [post_nil, post_nil, evalQuery_keys _ bp v w hk]
    exact ⟨rfl, hk⟩
  | ins ts rows hf =>
    dsimp only
    obtain ⟨ho, hrows⟩ := planIns_keys ts (plain_of_find hp hf) c c' rows v w 0 0
    rw [post_insRun hv (planIns_insRun ts c rows v 0),
      post_insRun hw (planIns_insRun ts c' rows w 0), keys_append, keys_append, hk, hrows]
    exact ⟨ho, rfl⟩
  | del bp =>
    dsimp only
    rw [post_planDel _ bp v hv.sorted, post_planDel _ bp w hw.sorted, planDel_eq, planDel_eq]
    have hlen := congrArg List.length (keys_filter_congr hk (fun k => k.1 == stmtTable st && rowMatches bp k.2))
    simp only [keys, List.length_map] at hlen
    exact ⟨congrArg SOut.okN hlen,
      keys_filter_congr hk (fun k => !(k.1 == stmtTable st && rowMatches bp k.2))⟩

theorem autoStmt_keys (cat : Catalog) (hp : plainCat cat = true) (c c' : Nat) (v w : View) (st : Stmt)
    (hs : simpleStmt st = true) (hv : Tidy c v) (hw : Tidy c' w) (hk : keys v = keys w) :
    (autoStmt cat c v st).2 = (autoStmt cat c' w st).2 ∧ keys (autoStmt cat c v st).1 = keys (autoStmt cat c' w st).1 := by
  obtain ⟨ho, hrows⟩ := plan_sim cat hp c c' v w st hs hv hw hk
  unfold autoStmt
  dsimp only
  rw [constraintsHold_plain hp, constraintsHold_plain hp, ← ho, if_pos rfl, if_pos rfl]
  by_cases he : (planStmt Option.none cat c 0 v st).out.isErr = true
  · rw [if_pos he, if_pos he]
    exact ⟨rfl, hk⟩
  · rw [if_neg he, if_neg he]
    exact ⟨rfl, hrows⟩

theorem eq_nop_of_isNop {op : Op} (h : isNop op = true) : op = .nop := by
  cases op <;> first | rfl | cases h

theorem sim_step {α β : Spec.State} {op : Op} (hp : plainCat α.cat = true) (hop : okOp op = true) (hiα : Inv α)
    (hiβ : Inv β) (h : Sim α β) :
    (Spec.step α op).2 = (Spec.step β op).2 ∧ Sim (Spec.step α op).1 (Spec.step β op).1 := by
  cases op with
  | auto st =>
    obtain ⟨e1, e2, _⟩ := step_auto α st
    obtain ⟨f1, f2, _⟩ := step_auto β st
    obtain ⟨ho, hrows⟩ := autoStmt_keys α.cat hp α.clock β.clock α.committed β.committed st hop hiα.tidy hiβ.tidy
      h.rows.symm
    rw [h.cat] at f1 f2
    exact ⟨by rw [e2, f2, ho], by rw [spec_step_cat, spec_step_cat, h.cat], by rw [e1, f1, hrows]⟩
  | tick => exact ⟨rfl, h.cat, h.rows⟩
  | nop => exact ⟨rfl, h.cat, h.rows⟩
  | _ => cases hop

theorem sim_from : ∀ (ops : List Op) (α β : Spec.State), plainCat α.cat = true → ops.all okOp = true → Inv α → Inv β → Sim α β →
    realAnswers ops (Spec.outs α ops) = realAnswers (dropNops ops) (Spec.outs β (dropNops ops)) ∧
    keys (Spec.final α ops).committed = keys (Spec.final β (dropNops ops)).committed := by
  intro ops
  induction ops with
  | nil => exact fun _ _ _ _ _ _ h => ⟨rfl, h.rows.symm⟩
  | cons op ops ih =>
    intro α β hp hok hiα hiβ h
    rw [List.all_cons, Bool.and_eq_true] at hok
    have hp' : plainCat (Spec.step α op).1.cat = true := (spec_step_cat α op).symm ▸ hp
    rw [dropNops_cons, Spec.outs, Spec.final, realAnswers]
    by_cases hn : isNop op = true
    · rw [if_pos hn, if_pos hn]
      cases eq_nop_of_isNop hn
      exact ih _ β hp' hok.2 (inv_step hiα hok.1) hiβ ⟨h.cat, h.rows⟩
    · obtain ⟨ho, h'⟩ := sim_step hp hok.1 hiα hiβ h
      obtain ⟨ih1, ih2⟩ := ih _ _ hp' hok.2 (inv_step hiα hok.1) (inv_step hiβ hok.1) h'
      rw [if_neg hn, if_neg hn, Spec.outs, Spec.final, realAnswers, if_neg hn, ho, ih1]
      exact ⟨rfl, ih2⟩

end AxVerif.Db.NI
