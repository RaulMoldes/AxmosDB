/-
  C08 — The database always reopens after a crash, and recovery can be repeated.

  In the protocol model recovery is a total function of the stable image and the durable log (totality is by
  construction: `recover` is a structural fold), its only durable effect is one atomic checkpoint (`reopen`), and the
  theorems below state repeatability.  The shipped checkpoint is NOT atomic; `tornCheckpoint_witness` shows what
  that costs, and the `crash` engine attributes failures inside that window to the listed finding.

  Then two refinements of that machine, each simulated by it: the checkpoint split into page writes and truncation
  (safe outside that window), and the journaled checkpoint of `io/journal.rs` (safe at every point).  Last, at the
  level of pages: every accepted trace of journal and page I/O restores to the last checkpoint (`Model/Journal.lean`).
-/
import AxVerif.Thm.C01
import AxVerif.Lemmas.Journal
namespace AxVerif.Recovery
open AxVerif AxVerif.Durable

theorem crash_idem (s : St) : crash (crash s) = crash s := rfl

/-- A crash during recovery (before its final checkpoint) leaves the durable state as it was, so the next
    recovery computes the same database. -/
theorem recover_after_interrupted_recovery (s : St) : recover (crash (crash s)) = recover (crash s) := rfl

/-- Reopening an already recovered database changes nothing … -/
theorem reopen_idem (s : St) : reopen (reopen s) = reopen s :=
  congrArg (St.mk · [] []) (replay_nil _)

def reopenN : Nat → St → St
  | 0, s => s
  | n + 1, s => reopen (reopenN n s)

/-- … any number of times. -/
theorem reopen_iterate (s : St) (n : Nat) : reopenN (n + 1) s = reopen s := by
  induction n with
  | zero => rfl
  | succ n ih =>
    show reopen (reopenN (n + 1) s) = reopen s
    rw [ih, reopen_idem]

/-- Opening a cleanly closed database (log empty, nothing volatile) changes nothing. -/
theorem reopen_clean_noop (s : St) (hl : s.log = []) (hb : s.buf = []) : reopen s = s := by
  cases s with
  | mk stable log buf =>
    cases hl
    cases hb
    exact congrArg (St.mk · [] []) (replay_nil stable)

/-- What a reopened database contains is what recovery computed, and it is stable under further crashes. -/
theorem reopen_contents (s : St) : recover (crash (reopen s)) = recover (crash s) :=
  replay_nil _

/-- **C08 (protocol level).** For every trace and every crash point, however often recovery is interrupted and
    restarted, and however many clean close/open cycles follow, the contents are the redo of the durable history. -/
theorem contents_after_any_number_of_recoveries (es : List Ev) (hw : WfRecs (appended es)) (n : Nat) :
    recover (crash (reopenN n (run es))) = replay [] (durable es) := by
  cases n with
  | zero => exact recover_crash_eq_replay_durable es hw
  | succ n =>
    rw [reopen_iterate, reopen_contents]
    exact recover_crash_eq_replay_durable es hw

/-- Witness for the shipped non-atomic checkpoint: after the checkpoint's page writes but before the log is
    truncated, recovery redoes the log on top of a state that already contains it. -/
theorem tornCheckpoint_witness :
    let s : St := { stable := [("t", [])], log := [Rec.op 1 (.ins "t" 1 10), Rec.commit 1], buf := [] }
    recover (crash s) = [("t", [(1, 10)])] ∧
    recover (crash (tornAfterPages s)) = [("t", [(1, 10), (1, 10)])] := by decide

theorem sim_step (x : St2) (s : St) (e : Ev2) (h : Sim x s) :
    Sim (step2 x e) ((emit x e).foldl step s) := by
  obtain ⟨xs, t⟩ := x
  cases t with
  | false =>
    -- not torn: the two machines are in the same state and take the same step; the page writes of a checkpoint at
    -- a quiescent point are the atomic checkpoint minus the truncation, which is what `Sim` says of a torn state
    cases h.1 rfl
    cases e with
    | ckptPages =>
      show Sim (if quiescent (xs.log ++ xs.buf) = true then _ else _) (step xs .checkpoint)
      unfold step
      by_cases hq : quiescent (xs.log ++ xs.buf) = true
      · rw [if_pos hq, if_pos hq]; exact ⟨fun h => (nomatch h), fun _ => rfl⟩
      · rw [if_neg hq, if_neg hq]; exact ⟨fun _ => rfl, fun h => nomatch h⟩
    | _ => exact ⟨fun _ => rfl, fun h => nomatch h⟩
  | true =>
    -- torn: only the truncation moves, and it lands on the state the atomic machine is already in
    cases h.2 rfl
    cases e with
    | ckptTruncate => exact ⟨fun _ => rfl, fun h => nomatch h⟩
    | _ => exact ⟨fun h => (nomatch h), fun _ => rfl⟩

theorem sim_run (es : List Ev2) (x : St2) (s : St) (h : Sim x s) :
    Sim (es.foldl step2 x) ((glueFrom x es).foldl step s) :=
  foldl_sim Sim step2 emit glueFrom (fun _ => rfl) (fun _ _ _ => rfl) sim_step es x s h

/-- **Outside the checkpoint window the shipped checkpoint is as good as an atomic one**: whenever the split machine
    is not between a checkpoint's page writes and its log truncation, crash + recovery yields the redo of the durable
    history of the corresponding atomic trace — for every trace, with any number of checkpoints. -/
theorem split_checkpoint_safe_outside_window (es : List Ev2) (hw : WfRecs (appended (glue es)))
    (hn : (run2 es).torn = false) :
    recover (crash (run2 es).s) = replay [] (durable (glue es)) := by
  have hsim := sim_run es { s := init, torn := false } init ⟨fun _ => rfl, fun h => by cases h⟩
  have : (run2 es).s = run (glue es) := hsim.1 hn
  rw [this]
  exact recover_crash_eq_replay_durable _ hw

/-- Inside the window it is not: see `tornCheckpoint_witness`; here the same on the split machine. -/
theorem split_checkpoint_torn_witness :
    let es := [Ev2.append (.op 1 (.crt "t")), .append (.commit 1), .force, .ckptPages, .ckptTruncate,
               .append (.op 2 (.ins "t" 1 10)), .append (.commit 2), .ckptPages]
    (run2 es).torn = true ∧ recover (crash (run2 es).s) = [("t", [(1, 10), (1, 10)])] ∧
    recover (crash (run2 (es ++ [.ckptTruncate])).s) = [("t", [(1, 10)])] := by decide

theorem sim3_step (x : St3) (s : St) (e : Ev3) (h : Sim3 x s) :
    Sim3 (step3 x e) ((emit3 x e).foldl step s) := by
  -- with the phase known every guard of `step3` and `emit3` is decided; an event outside its phase moves neither side
  obtain ⟨xs, file, phase⟩ := x
  cases phase with
  | idle =>
    cases (Sim3.idle_iff rfl).mp h
    cases e with
    | ckptPages =>
      show Sim3 (if quiescent (xs.log ++ xs.buf) = true then _ else _) (step xs .force)
      by_cases hq : quiescent (xs.log ++ xs.buf) = true
      · -- the log is forced and the new checkpoint is in the file; the journal still describes the old one
        rw [if_pos hq]; exact ⟨rfl, rfl, hq, rfl⟩
      · rw [if_neg hq]; exact rfl
    | _ => exact rfl
  | pages =>
    obtain ⟨h1, h2, h3, h4⟩ := (Sim3.pages_iff rfl).mp h
    cases e with
    | ckptDone =>
      -- marking the journal DONE is the atomic checkpoint: quiescent, nothing volatile, the file holds the replay
      show step s .checkpoint = _
      unfold step
      rw [h2, List.append_nil, if_pos h3, ← h4]
      rfl
    | _ => exact ⟨h1, h2, h3, h4⟩
  | done => cases e <;> exact h
  | dropped =>
    cases e with
    | ckptReset => exact Eq.symm h
    | _ => exact h

theorem sim3_run (es : List Ev3) (x : St3) (s : St) (h : Sim3 x s) :
    Sim3 (es.foldl step3 x) ((glue3From x es).foldl step s) :=
  foldl_sim Sim3 step3 emit3 glue3From (fun _ => rfl) (fun _ _ _ => rfl) sim3_step es x s h

/-- **With the pre-image journal a crash at any point — between checkpoints with pages already written in place
    (steal), inside a checkpoint's page writes, between its completion mark, the log truncation and the journal
    restart — recovers the redo of the durable history**: no window is excluded (compare
    `split_checkpoint_safe_outside_window`).  For every trace, with any number of checkpoints and any in-place writes. -/
theorem journaled_checkpoint_safe_at_every_point (es : List Ev3) (hw : WfRecs (appended (glue3 es))) :
    recover3 (crash3 (run3 es)) = replay [] (durable (glue3 es)) := by
  have hsim : Sim3 (run3 es) (run (glue3 es)) := sim3_run es init3 init ((Sim3.idle_iff rfl).mpr rfl)
  have hrec := recover_crash_eq_replay_durable (glue3 es) hw
  -- before DONE recovery replays the log on the restored checkpoint, as the atomic machine does; from DONE on the
  -- file is what the atomic machine has checkpointed, with an empty log
  have settled : ∀ hp : (run3 es).phase = .done ∨ (run3 es).phase = .dropped,
      (run3 es).file = recover (crash (run (glue3 es))) := fun hp => by
    rw [(Sim3.settled_iff hp).mp hsim]; rfl
  unfold recover3 crash3
  cases hp : (run3 es).phase with
  | idle => exact ((Sim3.idle_iff hp).mp hsim ▸ hrec : recover (crash (run3 es).s) = _)
  | pages => exact (((Sim3.pages_iff hp).mp hsim).1 ▸ hrec : recover (crash (run3 es).s) = _)
  | done => exact (settled (.inl hp)).trans hrec
  | dropped => exact (settled (.inr hp)).trans hrec

/-- the trace of `split_checkpoint_torn_witness` on the journaled machine: every prefix recovers the committed rows once -/
theorem journaled_checkpoint_witness :
    let es := [Ev3.append (.op 1 (.crt "t")), .append (.commit 1), .force, .ckptPages, .ckptDone, .ckptDropLog, .ckptReset,
               .append (.op 2 (.ins "t" 1 10)), .append (.commit 2), .force, .scribble [("t", [(7, 7)])], .ckptPages]
    (run3 es).phase = .pages ∧ recover3 (crash3 (run3 es)) = [("t", [(1, 10)])] ∧
    recover3 (crash3 (run3 (es ++ [.ckptDone]))) = [("t", [(1, 10)])] ∧
    recover3 (crash3 (run3 (es ++ [.ckptDone, .ckptDropLog]))) = [("t", [(1, 10)])] ∧
    recover3 (crash3 (run3 (es.take 11))) = [("t", [(1, 10)])] := by decide

end AxVerif.Recovery

namespace AxVerif.Journal

/-- **Every trace of journal and page I/O that obeys the protocol rule (`accepts` — the rule the real I/O trace is
    checked against), cut anywhere, with any prefix `k` of the not-yet-synced journal entries surviving, is restored
    by `Pager::return_to_checkpoint` to the file of the last checkpoint.** -/
theorem restore_returns_checkpoint (es : List Ev) (s : St) (h : run init es = some s) (k : Nat) :
    restore s k = s.ckpt :=
  restore_of_inv s (run_inv es init s inv_init h) k

/-- **Crash model B** — of the database file only what was written before its last fsync is sure to survive: whatever
    mix `g` of written and synced page contents the crash leaves (`CrashImage`), an accepted trace is still restored to
    the last checkpoint.  The rule therefore also demands the fsync of the file before the journal is marked done and
    before a journal is started. -/
theorem restore_returns_checkpoint_lossy (es : List Ev) (s : St) (h : run init es = some s) (hnf : s.mode ≠ .fresh)
    (g : File) (hg : CrashImage s g) (k : Nat) : restoreFrom s g k = s.ckpt :=
  restoreFrom_of_inv s (run_inv es init s inv_init h) hnf g hg k

/-- every prefix of an accepted trace is accepted (so the theorem covers every crash point of the trace) -/
theorem accepts_prefix (es : List Ev) (n : Nat) (h : accepts es = true) : accepts (es.take n) = true := by
  unfold accepts at *
  generalize init = s at h ⊢
  fun_induction run s es generalizing n with
  | case1 s => cases n <;> exact h
  | case2 s e es ha ih =>
    cases n with
    | zero => rfl
    | succ n => rw [List.take_succ_cons, run, if_pos ha]; exact ih n h
  | case3 s e es ha => cases h

/-- the rule is not vacuous: an eviction and a whole checkpoint, as the code issues them -/
theorem accepts_witness :
    accepts [.write 0 1, .dsync, .start 1, .save 0, .jsync, .write 1 5, .write 2 6, .write 0 2, .dsync, .done, .dropLog, .empty,
             .start 3, .write 5 9, .save 1, .jsync, .write 1 7] = true ∧
    (run init [.write 0 1, .dsync, .start 1, .save 0, .jsync, .write 1 5, .write 2 6, .write 0 2]).map (fun s => restore s 0) = some [1] ∧
    -- … and from the crash image that lost the unsynced writes of pages 0 and 2
    (run init [.write 0 1, .dsync, .start 1, .save 0, .jsync, .write 1 5, .write 2 6, .write 0 2]).map
        (fun s => restoreFrom s [1, 5] 0) = some [1] ∧
    -- overwriting a checkpointed page that was not saved is rejected
    accepts [.write 0 1, .dsync, .start 1, .write 0 2] = false ∧
    -- … as is dropping the log before the journal is marked done
    accepts [.write 0 1, .dsync, .start 1, .save 0, .jsync, .write 0 2, .dropLog] = false ∧
    -- … and marking the journal done while page writes are not synced
    accepts [.write 0 1, .dsync, .start 1, .save 0, .jsync, .write 0 2, .done] = false := by decide

end AxVerif.Journal
