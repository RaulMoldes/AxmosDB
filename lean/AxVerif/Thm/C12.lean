/-
  C12 — Configuration changes performance, never results.

  The statements are about the model of `PageCache` + the page-moving part of `Pager` (Model/Cache.lean) and of the
  configuration path (Model/Config.lean), against the flat store `Spec` (Lemmas/Cache.lean). The refinement theorems
  assume that no operation answered out-of-memory (`NoOom`) and that checkpoints happen only while no frame is
  referenced from outside the cache (`Spec.admissible`); they hold for EVERY combination of defect flags: the shipped
  defects only ever produced spurious out-of-memory errors, never wrong data. The out-of-memory theorems need the
  eviction sweep of the fixed code (`cursorForwardOnly = false`); the witness theorems show they fail with the shipped
  defects.
-/
import AxVerif.Lemmas.Cache
import AxVerif.Generated.Cache
import AxVerif.Thm.C10
namespace AxVerif.Cache
open AxVerif

/-- no operation of the run answered "Buffer pool got out of memory" -/
def NoOom (outs : List Out) : Prop := ∀ o ∈ outs, o ≠ .oom
instance (outs : List Out) : Decidable (NoOom outs) := inferInstanceAs (Decidable (∀ o ∈ outs, o ≠ .oom))

/-- **Main theorem.** For any capacity, any defect flags and ANY sequence of operations (allocate, read, write, pin,
    unpin, read/write through a pinned frame, checkpoint, re-open, raw look at the file) in which no operation
    answered out-of-memory, reading any page through the cache-or-file gives exactly the last value written to
    it, as recorded by the flat store; pages never allocated read as absent. No bound on the length of the
    sequence, the number of pages or the number of evictions. -/
theorem cache_refines_store (D : Defects) (cap : Nat) (ops : List POp)
    (hok : NoOom ((Pager.init cap).run D ops).2) (hadm : Spec.admissible {} ops = true) (p : Nat) :
    readThrough ((Pager.init cap).run D ops).1 p = (Spec.run {} ops).1.get p :=
  readThrough_eq (run_coupled D _ _ ops (init_coupled cap) hok hadm).1.inv p

/-- Under the same hypotheses every answer the pager gives (bytes read, page ids, handles, error classes) is the
    answer of the flat store — i.e. the cache capacity, the eviction policy and the defect flags are unobservable. -/
theorem outputs_refine_store (D : Defects) (cap : Nat) (ops : List POp)
    (hok : NoOom ((Pager.init cap).run D ops).2) (hadm : Spec.admissible {} ops = true) :
    OutsAgree ops ((Pager.init cap).run D ops).2 (Spec.run {} ops).2 :=
  (run_coupled D _ _ ops (init_coupled cap) hok hadm).2

/-- Two configurations (capacities `cap₁`, `cap₂`, any defect flags) give the same answers to the same operations
    as long as neither runs out of memory: "configuration changes performance, never results" at the pager. -/
theorem capacity_irrelevant (D₁ D₂ : Defects) (cap₁ cap₂ : Nat) (ops : List POp)
    (h₁ : NoOom ((Pager.init cap₁).run D₁ ops).2) (h₂ : NoOom ((Pager.init cap₂).run D₂ ops).2)
    (hadm : Spec.admissible {} ops = true) (p : Nat) :
    readThrough ((Pager.init cap₁).run D₁ ops).1 p = readThrough ((Pager.init cap₂).run D₂ ops).1 p := by
  rw [cache_refines_store D₁ cap₁ ops h₁ hadm, cache_refines_store D₂ cap₂ ops h₂ hadm]

/-- After a checkpoint the file alone holds the last written value of every allocated page, and the cache is empty:
    re-opening (or reloading any page) finds everything. -/
theorem flush_then_reload (D : Defects) (cap : Nat) (ops : List POp)
    (hok : NoOom ((Pager.init cap).run D (ops ++ [.flush])).2)
    (hadm : Spec.admissible {} (ops ++ [.flush]) = true) (p v : Nat)
    (hv : (Spec.run {} ops).1.get p = some v) :
    let s := ((Pager.init cap).run D (ops ++ [.flush])).1
    s.mem.cache.frames = [] ∧ p < s.disk.len ∧ s.disk.read p = v := by
  have hC := (run_coupled D _ _ (ops ++ [POp.flush]) (init_coupled cap) hok hadm).1
  rw [Spec.run_append] at hC
  have hfr : ((Pager.init cap).run D (ops ++ [.flush])).1.mem.cache.frames = [] := by
    rw [Pager.run_append]
    exact congrArg Cache.frames (parkAll_same _ _).1
  exact ⟨hfr, hC.inv.uncached p v hv (fun e => nomatch e) (by rw [hfr]; exact fun f hf => nomatch hf)⟩

/-- `PageCache::evict` (fixed sweep) fails only if the cache is non-empty and every frame is referenced from outside. -/
theorem evict_oom_only_if_all_pinned (D : Defects) (hD : D.cursorForwardOnly = false) (free : Frame → Bool)
    (c : Cache) (h : (c.evict D free).2 = .oom) : c.frames ≠ [] ∧ ∀ f ∈ c.frames, free f = false := by
  revert h
  exact evict_cases D free c (P := fun r => r.2 = .oom → _) (fun _ h => nomatch h) (fun _ _ _ h => nomatch h)
    (fun _ ho _ => ⟨ho.nonempty, ho.pinned hD⟩)

/-- Any pager operation answers out-of-memory only if the cache is full and every one of its frames is pinned. -/
theorem oom_only_if_all_pinned (D : Defects) (hD : D.cursorForwardOnly = false) (s : Pager) (op : POp)
    (h : (s.step D op).2 = .oom) :
    s.mem.cache.capacity ≤ s.mem.cache.frames.length ∧ ∀ f ∈ s.mem.cache.frames, s.mem.free f = false :=
  let ⟨a, _, c⟩ := step_oom D hD s op h
  ⟨a, c⟩

/-- The `cache_too_small` bound: along any run without earlier out-of-memory answers, an operation can only run out
    of memory while at least `capacity` (and at least one) frames are pinned by the workload. -/
theorem oom_needs_capacity_pins (D : Defects) (hD : D.cursorForwardOnly = false) (cap : Nat) (ops : List POp)
    (hok : NoOom ((Pager.init cap).run D ops).2) (hadm : Spec.admissible {} ops = true) (op : POp)
    (h : (((Pager.init cap).run D ops).1.step D op).2 = .oom) :
    let s := ((Pager.init cap).run D ops).1
    s.mem.cache.capacity ≤ s.mem.handles.length ∧ 1 ≤ s.mem.handles.length :=
  allPinned_handles (run_coupled D _ _ ops (init_coupled cap) hok hadm).1.inv.fids (step_oom D hD _ op h)

/-- For every defect combination and every operation sequence (out-of-memory answers included): no page is cached
    twice and the cache never holds more than `max capacity 1` frames. -/
theorem pager_cache_invariant (D : Defects) (cap : Nat) (ops : List POp) :
    let c := ((Pager.init cap).run D ops).1.mem.cache
    (c.frames.map (·.page)).Nodup ∧ c.frames.length ≤ max c.capacity 1 :=
  run_wf D (Pager.init cap) ops (empty_wf _ _)

/-- The same for the bare `PageCache` API (insert with replacement, evict, remove, clear, drain, pin/unpin, writes
    through held frames), for sequences that do not call `set_capacity`. -/
theorem cache_api_invariant (D : Defects) (cap : Nat) (ops : List COp) (hops : ∀ op ∈ ops, op.keepsCapacity = true) :
    let c := ((Mem.init cap).crun D ops).1.cache
    (c.frames.map (·.page)).Nodup ∧ c.frames.length ≤ max c.capacity 1 :=
  crun_wf D (Mem.init cap) ops hops (empty_wf _ _)

/-- `insert` never evicts a pinned frame and keeps every other frame. -/
theorem insert_evicts_only_free (D : Defects) (free : Frame → Bool) (c : Cache) (f v : Frame)
    (hnew : c.get f.page = none) (h : (c.insert D free f).2 = .inserted (some v)) :
    free v = true ∧ ∃ rest, c.frames.Perm (v :: rest) ∧ (c.insert D free f).1.frames = rest ++ [f] := by
  revert h
  refine insert_cases D free c f (P := fun r => r.2 = .inserted (some v) → free v = true ∧
    ∃ rest, c.frames.Perm (v :: rest) ∧ r.1.frames = rest ++ [f]) (fun _ _ _ h => nomatch h) (fun c' ev hi h => ?_)
    (fun _ _ h => nomatch h)
  cases h
  exact ⟨hi.free v rfl, hi.frames⟩

/-- As shipped (`clear` zeroes the capacity): with a cache of 4 pages, after a checkpoint, one pinned page is enough
    to make the next read fail with out-of-memory. Without the defect the same sequence succeeds. -/
theorem clearZeroesCapacity_witness :
    ((Pager.init 4).run { clearZeroesCapacity := true } [.alloc, .alloc, .flush, .pin 1, .read 2]).2.getLast? = some .oom ∧
    ((Pager.init 4).run Defects.none [.alloc, .alloc, .flush, .pin 1, .read 2]).2.getLast? = some (.val 0) := by
  decide

/-- As shipped (cursor only moves forward): `evict` reports out-of-memory although an unpinned frame is in the
    cache — `evict_oom_only_if_all_pinned` fails. The cache holds pages 1,2 (fids 0,1), page 2 pinned, cursor at 1
    after an earlier sweep; page 1 is free. -/
theorem cursorForwardOnly_witness :
    let c : Cache := { capacity := 2, frames := [⟨1, 0, 1, false⟩, ⟨2, 1, 2, false⟩], cursor := 1 }
    let free : Frame → Bool := fun f => f.fid != 1
    (c.evict { cursorForwardOnly := true } free).2 = .oom ∧ free ⟨1, 0, 1, false⟩ = true ∧
    (c.evict Defects.none free).2 = .victim ⟨1, 0, 1, false⟩ := by
  decide

/-- The same defect at the pager: two pages pinned then released, a third page read — out of memory as shipped,
    fine after the fix. -/
theorem cursorForwardOnly_pager_witness :
    ((Pager.init 2).run { cursorForwardOnly := true }
      [.alloc, .alloc, .alloc, .pin 1, .pin 2, .read 3, .unpin 0, .read 3]).2.getLast? = some .oom ∧
    ((Pager.init 2).run Defects.none
      [.alloc, .alloc, .alloc, .pin 1, .pin 2, .read 3, .unpin 0, .read 3]).2.getLast? = some (.val 0) := by
  decide

/-- As shipped (`Pager::open` ignores the stored cache size): a database created with a 2-page cache runs with
    10 000 pages after a re-open — three pages can be pinned at once. -/
theorem openIgnoresCacheSize_witness :
    ((Pager.init 2).run { openIgnoresCacheSize := true }
      [.alloc, .alloc, .alloc, .reopen, .pin 1, .pin 2, .pin 3]).2.getLast? = some (.handle 2) ∧
    ((Pager.init 2).run Defects.none
      [.alloc, .alloc, .alloc, .reopen, .pin 1, .pin 2, .pin 3]).2.getLast? = some .oom ∧
    (((Pager.init 2).run { openIgnoresCacheSize := true } [.reopen]).1.mem.cache.capacity = 10000) := by
  decide

/-- As shipped (`as u16`): a cache of 65 536 pages is recorded as 0 in page zero; once `open` honours the header
    that is a one-frame cache. -/
theorem cacheSizeWraps_witness :
    headerCacheSize { cacheSizeWraps := true } 65536 = 0 ∧ headerCacheSize Defects.none 65536 = 65535 ∧
    ((Pager.init 65536).run { cacheSizeWraps := true } [.alloc, .alloc, .reopen, .pin 1, .read 2]).2.getLast? = some .oom ∧
    ((Pager.init 65536).run Defects.none [.alloc, .alloc, .reopen, .pin 1, .read 2]).2.getLast? = some (.val 0) := by
  decide

/-- a sequence with evictions, write-back, re-reads and a checkpoint satisfies the hypotheses of the refinement
    theorems (capacity 2, four pages) -/
example :
    NoOom ((Pager.init 2).run Defects.none
      [.alloc, .alloc, .alloc, .write 1 7, .alloc, .read 1, .pin 2, .hwrite 0 9, .unpin 0, .flush, .read 2]).2 ∧
    Spec.admissible {} [.alloc, .alloc, .alloc, .write 1 7, .alloc, .read 1, .pin 2, .hwrite 0 9, .unpin 0, .flush, .read 2] = true ∧
    ((Pager.init 2).run Defects.none
      [.alloc, .alloc, .alloc, .write 1 7, .alloc, .read 1, .pin 2, .hwrite 0 9, .unpin 0, .flush, .read 2]).2.getLast? = some (.val 9) := by
  decide

/-- an out-of-memory answer that the theorems allow: capacity 1, the only frame pinned -/
example : ((Pager.init 1).run Defects.none [.alloc, .alloc, .pin 1, .read 2]).2.getLast? = some .oom := by decide

section Configuration
open AxVerif.Config

/-- the ranges in which the settings survive the page-zero header; the page size is anything (it is normalised) -/
def InDocumentedRange (cache minKeys siblings : Nat) : Prop := cache ≤ 65535 ∧ minKeys < 256 ∧ siblings < 256
instance (a b c : Nat) : Decidable (InDocumentedRange a b c) := inferInstanceAs (Decidable (_ ∧ _ ∧ _))

/-- What `DBConfig::new` produces is what the engine runs with, both in the creating session and after the
    settings went through page zero and `Pager::open` read them back. -/
theorem config_roundtrip (page cache pool minKeys siblings : Nat)
    (h : InDocumentedRange cache (max minKeys treeMinKeys) siblings) :
    let c := Config.new page cache pool minKeys siblings
    effectiveAtCreate Defects.none c = requested c ∧
    effectiveAtOpen Defects.none (toHeader Defects.none c) = requested c :=
  header_roundtrip_requested _ (Nat.lt_of_le_of_lt (clampPage_range page).2 (by decide)) h.1 h.2.1 h.2.2

/-- Whatever is asked for, the engine never runs a tree with fewer keys per page than the tree supports. -/
theorem min_keys_at_least_tree_minimum (page cache pool minKeys siblings : Nat) :
    treeMinKeys ≤ (Config.new page cache pool minKeys siblings).minKeys ∧
    treeMinKeys ≤ (Config.builder page cache pool minKeys siblings).minKeys :=
  ⟨Nat.le_max_right _ _, Nat.le_max_right _ _⟩

/-- Witness for the shipped clamping: min keys 2 was accepted although the tree needs 3. -/
theorem minKeysBelowTreeMinimum_witness :
    (Config.newShipped 4096 48 1 2 2).minKeys < treeMinKeys ∧ (Config.builderShipped 4096 48 1 0 2).minKeys < treeMinKeys := by
  decide

/-- the same through the builder -/
theorem config_roundtrip_builder (page cache pool minKeys siblings : Nat)
    (h : InDocumentedRange cache (max minKeys treeMinKeys) siblings) :
    let c := Config.builder page cache pool minKeys siblings
    effectiveAtOpen Defects.none (toHeader Defects.none c) = requested c :=
  (header_roundtrip_requested _ (Nat.lt_of_le_of_lt (clampPage_range page).2 (by decide)) h.1 h.2.1 h.2.2).2

/-- Every page size the engine can end up with is a power of two between 4 KiB and 64 KiB, whatever was asked for;
    a legal page size is kept as it is. -/
theorem page_size_normalised (n : Nat) : ∃ k, 12 ≤ k ∧ k ≤ 16 ∧ clampPage n = 2 ^ k := clampPage_pow2 n

theorem page_size_kept (k : Nat) (h1 : 12 ≤ k) (h2 : k ≤ 16) : clampPage (2 ^ k) = 2 ^ k := clampPage_fix k h1 h2

/-- `nextPow2` is the least power of two not below its argument (the meaning of `usize::next_power_of_two`). -/
theorem nextPow2_spec (n : Nat) : n ≤ nextPow2 n ∧ (∃ k, nextPow2 n = 2 ^ k) ∧ (1 < n → nextPow2 n / 2 < n) :=
  ⟨nextPow2_ge n, nextPow2_pow n, nextPow2_least n⟩

/-- Outside the range the header cannot represent the request: the round trip fails (by design of the u16/u8 fields,
    after saturation of the cache size). -/
theorem config_out_of_range_witness :
    effectiveAtOpen Defects.none (toHeader Defects.none (Config.new 4096 100000 4 3 2)) ≠ requested (Config.new 4096 100000 4 3 2) ∧
    (toHeader Defects.none (Config.new 4096 48 4 256 2)).minKeys = 0 := by
  decide

/-- as shipped, even in range, the cache size did not survive a re-open -/
theorem openIgnoresCacheSize_config_witness :
    effectiveAtOpen { openIgnoresCacheSize := true } (toHeader Defects.none (Config.new 4096 48 4 3 2)) ≠
      requested (Config.new 4096 48 4 3 2) := by
  decide

example : InDocumentedRange 48 3 2 := by decide
example : InDocumentedRange 10000 5 3 := by decide

/-- the constants of the model are the constants of the code -/
theorem generated_constants_match :
    AxVerif.Generated.cacheConsts = [minPageSize, maxPageSize, defaultCacheSize, defaultPageSize, defaultMinKeys, defaultSiblings] := by
  decide

end Configuration

/-!
  Everything above the pager — B+tree, catalog, executor — is a *client* of it: a deterministic program that chooses its
  next pager operation from the answers received so far (`Client`). The theorems below say that such a client cannot
  tell which cache capacity it runs on, as long as it never pins as many frames as the cache holds: no hypothesis
  about out-of-memory is left, the bound on the pins implies there is none. A page's content is one number in the model,
  which loses nothing: whole page images can be numbered. -/

/-- **Any client, any capacity above its pin bound, sees the flat store.** If the client's dialogue with the flat
    store never has `bound` or more frames pinned at once (and checkpoints with none pinned), then against the real
    pager with any capacity `cap` with `bound ≤ min cap 65535` — 65 535 being what page zero can record, which is what a
    re-opened pager runs with — the dialogue is *identical*: same operations, same answers, no out-of-memory, for
    any number of steps, any number of evictions, write-backs, checkpoints and re-opens in between. -/
theorem client_sees_flat_store (cap bound : Nat) (hb : bound ≤ min cap 65535) (client : Client) (n : Nat)
    (hok : Spec.clientOk bound client n {} [] = true) :
    Pager.interact Defects.none client n (Pager.init cap) [] = Spec.interact client n {} [] :=
  interact_refines cap bound hb client n _ _ [] (init_coupled cap) (init_capOk cap) hok

/-- **Results are independent of the cache size.** The same client on two pagers of different capacities, both at
    least the client's pin bound: identical dialogues, hence identical results of whatever the client computes. -/
theorem results_independent_of_capacity (cap₁ cap₂ bound : Nat) (h₁ : bound ≤ min cap₁ 65535)
    (h₂ : bound ≤ min cap₂ 65535) (client : Client) (n : Nat) (hok : Spec.clientOk bound client n {} [] = true) :
    Pager.interact Defects.none client n (Pager.init cap₁) [] =
      Pager.interact Defects.none client n (Pager.init cap₂) [] := by
  rw [client_sees_flat_store cap₁ bound h₁ client n hok, client_sees_flat_store cap₂ bound h₂ client n hok]

/-- The same, stated on configurations as `DBConfig::new` makes them: page size, pool size, min keys and siblings do
    not reach the pager at all (its behaviour is a function of the cache size alone), and the cache size does not show. -/
theorem results_independent_of_configuration (c₁ c₂ : Config.Config) (bound : Nat)
    (h₁ : bound ≤ min c₁.cacheSize 65535) (h₂ : bound ≤ min c₂.cacheSize 65535) (client : Client) (n : Nat)
    (hok : Spec.clientOk bound client n {} [] = true) :
    Pager.interact Defects.none client n (Pager.init (Config.effectiveAtCreate Defects.none c₁).cacheCapacity) [] =
      Pager.interact Defects.none client n (Pager.init (Config.effectiveAtCreate Defects.none c₂).cacheCapacity) [] :=
  results_independent_of_capacity _ _ bound h₁ h₂ client n hok

/-- For a fixed operation list the pin bound alone excludes out-of-memory … -/
theorem no_oom_above_pin_bound (cap bound : Nat) (hb : bound ≤ min cap 65535) (ops : List POp)
    (hadm : Spec.admissible {} ops = true) (hpins : Spec.pinBounded bound {} ops = true) :
    NoOom ((Pager.init cap).run Defects.none ops).2 :=
  run_no_oom cap bound hb ops _ _ (init_coupled cap) (init_capOk cap) hadm hpins

/-- … so every capacity at or above the bound gives the same observable reads (the refinement theorem with its
    out-of-memory hypothesis discharged). -/
theorem reads_independent_of_capacity (cap₁ cap₂ bound : Nat) (h₁ : bound ≤ min cap₁ 65535)
    (h₂ : bound ≤ min cap₂ 65535) (ops : List POp) (hadm : Spec.admissible {} ops = true)
    (hpins : Spec.pinBounded bound {} ops = true) (p : Nat) :
    readThrough ((Pager.init cap₁).run Defects.none ops).1 p = readThrough ((Pager.init cap₂).run Defects.none ops).1 p ∧
    OutsAgree ops ((Pager.init cap₁).run Defects.none ops).2 (Spec.run {} ops).2 ∧
    OutsAgree ops ((Pager.init cap₂).run Defects.none ops).2 (Spec.run {} ops).2 :=
  have n₁ := no_oom_above_pin_bound cap₁ bound h₁ ops hadm hpins
  have n₂ := no_oom_above_pin_bound cap₂ bound h₂ ops hadm hpins
  ⟨capacity_irrelevant _ _ cap₁ cap₂ ops n₁ n₂ hadm p, outputs_refine_store _ cap₁ ops n₁ hadm,
    outputs_refine_store _ cap₂ ops n₂ hadm⟩

/-- The bound is sharp: a client that pins as many frames as the cache holds does run out of memory (capacity 2, two
    pins, a third page), and the same client is fine with one more frame. -/
theorem pin_bound_is_sharp :
    ((Pager.init 2).run Defects.none [.alloc, .alloc, .alloc, .pin 1, .pin 2, .read 3]).2.getLast? = some .oom ∧
    ((Pager.init 3).run Defects.none [.alloc, .alloc, .alloc, .pin 1, .pin 2, .read 3]).2.getLast? = some (.val 0) ∧
    Spec.pinBounded 3 {} [.alloc, .alloc, .alloc, .pin 1, .pin 2, .read 3] = true ∧
    Spec.pinBounded 2 {} [.alloc, .alloc, .alloc, .pin 1, .pin 2, .read 3] = false := by
  decide

/-- the hypotheses are satisfiable by a client that adapts to what it reads: it allocates two pages, writes 5 into
    the first, reads it back, and writes what it read plus one into the second -/
example :
    let client : Client := fun hist =>
      match hist with
      | [] => some .alloc
      | [_] => some .alloc
      | [_, _] => some (.write 1 5)
      | [_, _, _] => some (.read 1)
      | [_, _, _, .val v] => some (.write 2 (v + 1))
      | [_, _, _, _, _] => some (.read 2)
      | _ => none
    Spec.clientOk 1 client 10 {} [] = true ∧
    (Pager.interact Defects.none client 10 (Pager.init 1) []).getLast? = some (.read 2, .val 6) := by
  decide

/-!
  Page size, minimum keys per page and siblings per side decide the *shape* of a B+tree, i.e. which client of the
  pager the tree code is. That every shape answers alike is C10's subject; its verified checker has no geometry
  parameter, so the statement needed here is a corollary of its soundness (`BTree.checkTree_lookup`, `BTree.checkTree_scan`,
  `C10.checkTree_sound_backward`). -/

/-- **Geometry is irrelevant to the answers.** Two page graphs — built under any page sizes, minimum-key and sibling
    settings — that the checker accepts and that hold the same contents answer every point lookup, the forward scan and
    the backward scan identically; in particular so do two graphs whose contents are the ordered-map fold of the same
    operations, which is what C10's engine establishes for every geometry it runs (4–16 KiB pages, 3–16 min keys,
    1–8 siblings) and the configuration grid below re-checks through SQL. -/
theorem geometry_irrelevant (d₁ d₂ : AxVerif.BTree.Dump) (h₁ : AxVerif.BTree.checkTree d₁ = true)
    (h₂ : AxVerif.BTree.checkTree d₂ = true) (hc : AxVerif.BTree.toList d₁ = AxVerif.BTree.toList d₂) :
    (∀ k, AxVerif.BTree.lookup d₁ k = AxVerif.BTree.lookup d₂ k) ∧
    AxVerif.BTree.leafScan d₁ = AxVerif.BTree.leafScan d₂ ∧
    AxVerif.BTree.leafScanBack d₁ = AxVerif.BTree.leafScanBack d₂ := by
  refine ⟨fun k => by rw [AxVerif.BTree.checkTree_lookup h₁ k, AxVerif.BTree.checkTree_lookup h₂ k, hc],
    by rw [AxVerif.BTree.checkTree_scan h₁, AxVerif.BTree.checkTree_scan h₂, hc], ?_⟩
  rw [AxVerif.C10.checkTree_sound_backward d₁ h₁, AxVerif.C10.checkTree_sound_backward d₂ h₂, hc]

/-- The full SQL-level statement of C12 for an engine semantics `run` (configuration → statements → answers): any
    two configurations in the documented ranges answer every workload identically unless one of them reports
    out-of-memory. It is a statement about the Rust engine as a whole and stays a `def`. What the theorems above
    contribute to it, and what is left to the tie:
    * storage: every client of the pager gets the flat store's answers for every cache capacity above its pin bound
      (`client_sees_flat_store`, `results_independent_of_capacity`) — proved, unbounded;
    * settings: what is requested is what the engine runs with (`config_roundtrip`, `header_roundtrip_requested`) — proved;
    * geometry: accepted page graphs with equal contents answer alike (`geometry_irrelevant`, from C10) — proved; that
      the tree code produces accepted graphs with the right contents under every geometry is C10's tie (checked dump
      after every operation), not a theorem about the Rust code;
    * the logical database model (Model/Db.lean, C03–C09) takes no configuration argument at all;
    * that the engine is such a client — deterministic, reaching its data only through the pager — and the pool size
      are covered by the configuration grids of engine `cache` (`grid`, `sqlgrid`, `histgrid` cases: the same script under
      page 4–64 KiB, cache 8–4096, min keys 3–8, siblings 1–4, pool 1–8; identical canonical results required). -/
def sql_results_independent_of_configuration_statement {Stmt Answer : Type}
    (run : Config.Config → List Stmt → List Answer) (isOom : Answer → Bool) : Prop :=
  ∀ (c₁ c₂ : Config.Config) (w : List Stmt),
    InDocumentedRange c₁.cacheSize c₁.minKeys c₁.siblings → InDocumentedRange c₂.cacheSize c₂.minKeys c₂.siblings →
    (run c₁ w).all (fun a => !isOom a) = true → (run c₂ w).all (fun a => !isOom a) = true →
    run c₁ w = run c₂ w

end AxVerif.Cache
