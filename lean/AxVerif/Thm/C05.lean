/-
  C05 — Query answers match SQL semantics.

  The reference evaluator of `Model/Sql.lean` is the specification the engine is compared with on every run.
  The theorems below show that it obeys the *defining laws* of SQL for all inputs, so it cannot be "a tidy model
  of the bug": Kleene logic, BETWEEN and IN as abbreviations, IS NULL is two-valued, aggregates ignore NULL,
  WHERE keeps exactly the TRUE rows, joins are the set comprehensions of the standard, ORDER BY yields a sorted
  permutation, LIMIT/OFFSET = take/drop, DISTINCT = duplicate-free with the same support, GROUP BY partitions its
  input, UPDATE/DELETE touch exactly the rows where the condition is TRUE and report that number.
  For every defect flag a witness theorem shows a concrete input on which the flagged model breaks such a law.
  All statements about the evaluator are for `Defects.none` unless named `…_witness`; the parser section at the end
  has its own witnesses.
-/
import AxVerif.Lemmas.Sql
import AxVerif.Lemmas.Parser
import AxVerif.Generated.Parse
namespace AxVerif.Sql

def tvRank : TV → Nat
  | some false => 0 | none => 1 | some true => 2

/-- AND is the minimum, OR the maximum in the truth order FALSE < UNKNOWN < TRUE, NOT reverses it (Kleene's K3) -/
theorem and_or_not_kleene (a b : TV) :
    tvRank (and3 a b) = min (tvRank a) (tvRank b) ∧
    tvRank (or3 a b) = max (tvRank a) (tvRank b) ∧
    tvRank (not3 a) = 2 - tvRank a := by
  rcases a with _ | _ | _ <;> rcases b with _ | _ | _ <;> decide

theorem and3_table :
    and3 (some true) (some true) = some true ∧ and3 (some true) (some false) = some false ∧
    and3 (some true) none = none ∧ and3 (some false) (some true) = some false ∧
    and3 (some false) (some false) = some false ∧ and3 (some false) none = some false ∧
    and3 none (some true) = none ∧ and3 none (some false) = some false ∧ and3 none none = none := by decide

theorem or3_table :
    or3 (some true) (some true) = some true ∧ or3 (some true) (some false) = some true ∧
    or3 (some true) none = some true ∧ or3 (some false) (some true) = some true ∧
    or3 (some false) (some false) = some false ∧ or3 (some false) none = none ∧
    or3 none (some true) = some true ∧ or3 none (some false) = none ∧ or3 none none = none := by decide

theorem not3_table : not3 (some true) = some false ∧ not3 (some false) = some true ∧ not3 none = none := by decide

theorem and3_comm (a b : TV) : and3 a b = and3 b a := by
  rcases a with _ | _ | _ <;> rcases b with _ | _ | _ <;> rfl
theorem or3_comm (a b : TV) : or3 a b = or3 b a := by
  rcases a with _ | _ | _ <;> rcases b with _ | _ | _ <;> rfl
theorem and3_assoc (a b c : TV) : and3 (and3 a b) c = and3 a (and3 b c) := by
  rcases a with _ | _ | _ <;> rcases b with _ | _ | _ <;> rcases c with _ | _ | _ <;> rfl
theorem or3_assoc (a b c : TV) : or3 (or3 a b) c = or3 a (or3 b c) := by
  rcases a with _ | _ | _ <;> rcases b with _ | _ | _ <;> rcases c with _ | _ | _ <;> rfl
theorem de_morgan3 (a b : TV) : not3 (and3 a b) = or3 (not3 a) (not3 b) ∧ not3 (or3 a b) = and3 (not3 a) (not3 b) := by
  rcases a with _ | _ | _ <;> rcases b with _ | _ | _ <;> exact ⟨rfl, rfl⟩
theorem not3_not3 (a : TV) : not3 (not3 a) = a := by
  rcases a with _ | _ | _ <;> rfl

/-- a comparison is unknown exactly when an operand is NULL -/
theorem cmp3_null_iff (op : CmpOp) (a b : Value) : cmp3 op a b = none ↔ a = .null ∨ b = .null := by
  fun_cases cmp3 op a b with
  | case1 => exact iff_of_true rfl (Or.inl rfl)
  | case2 => exact iff_of_true rfl (Or.inr rfl)
  | case3 a b ha hb => exact iff_of_false (fun h => nomatch h) fun h => h.elim ha hb

/-- `x BETWEEN lo AND hi` is an abbreviation of `x >= lo AND x <= hi`; `NOT BETWEEN` of its negation -/
theorem between_def (tys : List Ty) (row : Row) (e lo hi : Expr) :
    eval .none tys row (.between false e lo hi) = eval .none tys row (.and (.cmp .ge e lo) (.cmp .le e hi)) ∧
    eval .none tys row (.between true e lo hi) = eval .none tys row (.not (.and (.cmp .ge e lo) (.cmp .le e hi))) := by
  simp only [eval, Defects.none]
  -- an error of `e`, `lo` or `hi` (in this order) is the result on both sides
  cases eval {} tys row e with
  | error x => exact ⟨rfl, rfl⟩
  | ok v =>
    cases eval {} tys row lo with
    | error x => exact ⟨rfl, rfl⟩
    | ok vl =>
      cases eval {} tys row hi with
      | error x => exact ⟨rfl, rfl⟩
      | ok vh => simp [asTV_toValue, negIf, between3]

/-- `x IN (y, ys…)` is an abbreviation of `x = y OR x IN (ys…)`, down to `x = y` for a single element;
    `NOT IN` is the negation (`orChain` is defined in Lemmas/Sql).  The element list of IN is never empty in SQL. -/
theorem in_def (tys : List Ty) (row : Row) (e x : Expr) (xs : List Expr) :
    eval .none tys row (.inList false e (x :: xs)) = eval .none tys row (orChain e (x :: xs)) ∧
    eval .none tys row (.inList true e (x :: xs)) = eval .none tys row (.not (orChain e (x :: xs))) := by
  have h := evalIn_orChain tys row e
  exact ⟨by simpa using h false x xs, by simpa using h true x xs⟩

/-- NOT IN over a list that contains a NULL is never TRUE: it is FALSE if the value occurs, unknown otherwise -/
theorem not_in_null_semantics (v : Value) (vs : List Value) (hn : Value.null ∈ vs) :
    negIf true (in3 v vs) ≠ some true := by
  have : in3 v vs = some true ∨ in3 v vs = none := in3_with_null v vs hn
  rcases this with h | h <;> simp [h, negIf, not3]

/-- … and IN / NOT IN of a NULL value over a non-empty list is unknown -/
theorem in_null_value (vs : List Value) (h : vs ≠ []) (neg : Bool) : negIf neg (in3 .null vs) = none := by
  have : in3 .null vs = none := in3_null_left vs h
  cases neg <;> simp [this, negIf, not3]

/-- IS NULL / IS NOT NULL never yield NULL, and are each other's negation -/
theorem is_null_never_null (tys : List Ty) (row : Row) (e : Expr) (neg : Bool) (v : Value)
    (h : eval .none tys row (.isNull neg e) = .ok v) : ∃ b, v = .bool b := by
  simp only [eval, Defects.none] at h
  cases he : eval {} tys row e <;> simp [he] at h
  exact ⟨_, h.symm⟩

theorem is_null_def (tys : List Ty) (row : Row) (e : Expr) (v : Value) (h : eval .none tys row e = .ok v) :
    eval .none tys row (.isNull false e) = .ok (.bool (v == .null)) ∧
    eval .none tys row (.isNull true e) = .ok (.bool (v != .null)) := by
  simp only [eval, Defects.none] at h ⊢
  simp [h, bne]

theorem anySuffix_iff {α} (f : List α → Bool) (s : List α) :
    anySuffix f s = true ↔ ∃ t, t <:+ s ∧ f t = true := by
  induction s with
  | nil =>
    simp only [anySuffix, List.suffix_nil]
    exact ⟨fun h => ⟨[], rfl, h⟩, fun ⟨_, ht, h⟩ => ht ▸ h⟩
  | cons c s ih =>
    simp only [anySuffix, Bool.or_eq_true, ih, List.suffix_cons_iff]
    constructor
    · rintro (h | ⟨t, ht, h⟩)
      · exact ⟨_, .inl rfl, h⟩
      · exact ⟨t, .inr ht, h⟩
    · rintro ⟨t, rfl | ht, h⟩
      · exact .inl h
      · exact .inr ⟨t, ht, h⟩

/-- LIKE is its definition: `%` stands for any sequence of characters, `_` for any one character, every other item
    (an ordinary character, or any character after the escape character) for itself -/
theorem like_def (p : List LikeItem) : ∀ (s : List UChar), likeMatch p s = true ↔ Likes p s := by
  induction p with
  | nil =>
    intro s
    simp only [likeMatch, List.isEmpty_iff]
    constructor
    · rintro rfl; exact .nil
    · intro h; cases h; rfl
  | cons it p ih =>
    intro s
    cases it with
    | anySeq =>
      simp only [likeMatch, anySuffix_iff]
      constructor
      · rintro ⟨s₂, ⟨s₁, rfl⟩, h⟩; exact .anySeq p s₁ s₂ ((ih s₂).mp h)
      · intro h
        cases h with
        | anySeq _ s₁ s₂ h => exact ⟨s₂, ⟨s₁, rfl⟩, (ih s₂).mpr h⟩
    | anyOne =>
      cases s with
      | nil => simp only [likeMatch]; constructor <;> intro h <;> cases h
      | cons c s =>
        simp only [likeMatch]
        constructor
        · intro h; exact .anyOne p c s ((ih s).mp h)
        · intro h; cases h with | anyOne _ _ _ h => exact (ih s).mpr h
    | lit c =>
      cases s with
      | nil => simp only [likeMatch]; constructor <;> intro h <;> cases h
      | cons x s =>
        simp only [likeMatch, Bool.and_eq_true, beq_iff_eq]
        constructor
        · rintro ⟨rfl, h⟩; exact .lit p x s ((ih s).mp h)
        · intro h; cases h with | lit _ _ _ h => exact ⟨rfl, (ih s).mpr h⟩

/-- a pattern without wildcards matches exactly the text it spells; `%` alone matches everything -/
theorem like_literal_and_percent (cs s : List UChar) :
    (likeMatch (cs.map .lit) s = true ↔ s = cs) ∧ likeMatch [.anySeq] s = true := by
  constructor
  · induction cs generalizing s with
    | nil => simp [likeMatch]
    | cons c cs ih =>
      cases s with
      | nil => simp [likeMatch]
      | cons x s => simp [likeMatch, ih s]
  · rw [like_def]
    have := Likes.anySeq [] s [] .nil
    simpa using this

/-- the characters of a text partition its bytes; an ASCII text has one character per byte -/
theorem utf8Chars_laws (s : List Nat) :
    (utf8Chars s).flatten = s ∧ ((∀ b ∈ s, b < 128) → utf8Chars s = s.map ([·])) := by
  fun_induction utf8Chars s with
  | case1 => exact ⟨rfl, fun _ => rfl⟩
  | case2 b bs hnil ih =>
    rw [hnil] at ih
    obtain rfl : [] = bs := ih.1
    exact ⟨rfl, fun _ => rfl⟩
  | case3 b bs c cs hc hcont ih =>
    rw [hc] at ih
    refine ⟨by rw [← ih.1]; rfl, fun hb => ?_⟩
    cases bs with
    | nil => cases ih.2 fun _ h => nomatch h
    | cons x xs =>
      obtain ⟨rfl, -⟩ := List.cons.inj (ih.2 fun y hy => hb y (List.mem_cons_of_mem _ hy))
      have hx : x < 128 := hb x (List.mem_cons_of_mem _ List.mem_cons_self)
      exact absurd hcont (by simp [isCont]; omega)
  | case4 b bs c cs hc hcont ih =>
    rw [hc] at ih
    exact ⟨by rw [← ih.1]; rfl, fun hb => congrArg _ (ih.2 fun y hy => hb y (List.mem_cons_of_mem _ hy))⟩

/-- LIKE with a NULL on either side is unknown; on two texts it is the matcher; anything else is a type error -/
theorem like_null_and_types (v : Value) (s p : List Nat) :
    like3 .null v = .ok none ∧ like3 v .null = .ok none ∧ like3 (.text s) (.text p) = .ok (some (likeText p s)) := by
  refine ⟨rfl, ?_, rfl⟩
  cases v <;> rfl

/-- `a NOT LIKE p` is `NOT (a LIKE p)` (three-valued, errors included) -/
theorem not_like_is_not_like (tys : List Ty) (row : Row) (a p : Expr) :
    eval .none tys row (.like true a p) = eval .none tys row (.not (.like false a p)) := by
  simp only [eval]
  cases eval {} tys row a with
  | error e => rfl
  | ok va =>
    cases eval {} tys row p with
    | error e => rfl
    | ok vp =>
      simp only []
      cases like3 va vp with
      | error e => rfl
      | ok t =>
        cases t with
        | none => rfl
        | some m => cases m <;> rfl

/-- escapes after wildcards, escaped wildcards, characters of several bytes: 'a_b' LIKE '%\_%', 'ab' NOT LIKE '%\_%',
    'a%b' LIKE 'a\%' is false, 'a%' LIKE 'a\%', 'é' LIKE '_', 'é' LIKE '__' is false, a pattern ending in `\` matches nothing -/
theorem like_examples :
    likeText [37, 92, 95, 37] [97, 95, 98] = true ∧ likeText [37, 92, 95, 37] [97, 98] = false ∧
    likeText [97, 92, 37] [97, 37, 98] = false ∧ likeText [97, 92, 37] [97, 37] = true ∧
    likeText [95] [195, 169] = true ∧ likeText [95, 95] [195, 169] = false ∧
    likeText [97, 92] [97] = false ∧ likeText [37, 97, 37, 98] [98, 97, 97, 98, 98, 97, 98] = true := by decide +kernel

/-- searched CASE: a WHEN whose condition is TRUE decides — its result is the value, whatever the later arms and the
    ELSE are (they are not evaluated: `CASE WHEN b = 0 THEN 0 ELSE a / b END` never divides by zero) -/
theorem case_when_true (tys : List Ty) (row : Row) (c r : Expr) (rest : List Expr)
    (h : eval .none tys row c = .ok (.bool true)) :
    eval .none tys row (.caseWhen (c :: r :: rest)) = eval .none tys row r := by
  simp only [eval, evalCaseWhen, Defects.none] at h ⊢
  simp [h, asTV]

/-- … a WHEN whose condition is FALSE or unknown is skipped -/
theorem case_when_not_true (tys : List Ty) (row : Row) (c r : Expr) (rest : List Expr) (v : Value)
    (h : eval .none tys row c = .ok v) (hv : v = .bool false ∨ v = .null) :
    eval .none tys row (.caseWhen (c :: r :: rest)) = eval .none tys row (.caseWhen rest) := by
  simp only [eval, evalCaseWhen, Defects.none] at h ⊢
  rcases hv with rfl | rfl <;> simp [h, asTV]

/-- … and when no WHEN is left the value is the ELSE expression, NULL without ELSE -/
theorem case_else (tys : List Ty) (row : Row) (e : Expr) :
    eval .none tys row (.caseWhen [e]) = eval .none tys row e ∧
    eval .none tys row (.caseWhen []) = .ok .null ∧
    eval .none tys row (.caseWhen [.lit .null]) = .ok .null := by
  simp [eval, evalCaseWhen]

def simpleToSearched (x : Expr) : List Expr → List Expr
  | c :: r :: rest => .cmp .eq x c :: r :: simpleToSearched x rest
  | l => l

/-- simple CASE `CASE x WHEN v THEN r …` is an abbreviation of `CASE WHEN x = v THEN r …`
    (so a NULL operand or a NULL WHEN value never matches) -/
theorem case_simple_def (tys : List Ty) (row : Row) (x : Expr) (xv : Value)
    (hx : eval .none tys row x = .ok xv) (parts : List Expr) :
    eval .none tys row (.caseOf x parts) = eval .none tys row (.caseWhen (simpleToSearched x parts)) := by
  have key : ∀ ps : List Expr, evalCaseOf {} tys row xv ps = evalCaseWhen {} tys row (simpleToSearched x ps) := by
    intro ps
    fun_induction simpleToSearched x ps with
    | case1 c r rest ih =>
      simp only [evalCaseOf, evalCaseWhen, eval]
      simp only [Defects.none] at hx
      rw [hx]
      cases hc : eval {} tys row c with
      | error e => rfl
      | ok w =>
        simp only [asTV_toValue]
        rcases hcmp : cmp3 .eq xv w with _ | _ | _ <;> simp [ih]
    | case2 l hl =>
      cases l with
      | nil => simp [evalCaseOf, evalCaseWhen]
      | cons a l' =>
        cases l' with
        | nil => simp [evalCaseOf, evalCaseWhen]
        | cons b l'' => exact absurd rfl (hl a b l'')
  simp only [eval, Defects.none] at hx ⊢
  rw [hx]
  exact key parts

/-! ## String functions (texts are byte strings; letters are the ASCII letters) -/

/-- a string function of NULL is NULL, of a text its defining value; of anything else a type error -/
theorem strfn_def (tys : List Ty) (row : Row) (f : StrFn) (e : Expr) (v : Value)
    (h : eval .none tys row e = .ok v) (hf : f.isNumeric = false) :
    eval .none tys row (.strFn f e) =
      match v with
      | .null => .ok .null
      | .text s => .ok (applyStrFn f s)
      | _ => .error .type := by
  simp only [eval, h]
  cases v <;> simp [strFn1, hf]

/-- `a || b` is the concatenation; NULL if either side is NULL -/
theorem concat_def (tys : List Ty) (row : Row) (a b : Expr) (x y : List Nat) :
    (eval .none tys row a = .ok (.text x) → eval .none tys row b = .ok (.text y) →
      eval .none tys row (.concat a b) = .ok (.text (x ++ y))) ∧
    (eval .none tys row a = .ok .null → eval .none tys row b = .ok (.text y) →
      eval .none tys row (.concat a b) = .ok .null) ∧
    (eval .none tys row a = .ok (.text x) → eval .none tys row b = .ok .null →
      eval .none tys row (.concat a b) = .ok .null) := by
  refine ⟨?_, ?_, ?_⟩ <;> intro ha hb <;> simp only [eval, ha, hb] <;> rfl

theorem upperByte_idem (b : Nat) : upperByte (upperByte b) = upperByte b :=
  rangeMap_idem upperByte_eq (fun b h => by omega) b

theorem lowerByte_idem (b : Nat) : lowerByte (lowerByte b) = lowerByte b :=
  rangeMap_idem lowerByte_eq (fun b h => by omega) b

theorem upper_lower_byte (b : Nat) : upperByte (lowerByte b) = upperByte b ∧ lowerByte (upperByte b) = lowerByte b :=
  ⟨rangeMap_absorb lowerByte_eq upperByte_eq (fun b h => by omega) b,
   rangeMap_absorb upperByte_eq lowerByte_eq (fun b h => by omega) b⟩

/-- UPPER and LOWER are idempotent, absorb each other, keep the number of bytes and change ASCII letters only -/
theorem upper_lower_laws (s : List Nat) :
    (s.map upperByte).map upperByte = s.map upperByte ∧
    (s.map lowerByte).map lowerByte = s.map lowerByte ∧
    (s.map lowerByte).map upperByte = s.map upperByte ∧
    (s.map upperByte).map lowerByte = s.map lowerByte ∧
    (s.map upperByte).length = s.length ∧ (s.map lowerByte).length = s.length ∧
    (∀ b, ¬ (97 ≤ b ∧ b ≤ 122) → upperByte b = b) ∧ (∀ b, ¬ (65 ≤ b ∧ b ≤ 90) → lowerByte b = b) ∧
    (∀ b, 97 ≤ b ∧ b ≤ 122 → upperByte b + 32 = b) ∧ (∀ b, 65 ≤ b ∧ b ≤ 90 → lowerByte b = b + 32) := by
  refine ⟨?_, ?_, ?_, ?_, List.length_map _, List.length_map _, ?_, ?_, ?_, ?_⟩
  · simp only [List.map_map, Function.comp_def, upperByte_idem]
  · simp only [List.map_map, Function.comp_def, lowerByte_idem]
  · simp only [List.map_map, Function.comp_def, (upper_lower_byte _).1]
  · simp only [List.map_map, Function.comp_def, (upper_lower_byte _).2]
  · intro b h; rw [upperByte_eq, if_neg h]
  · intro b h; rw [lowerByte_eq, if_neg h]
  · intro b h; rw [upperByte_eq, if_pos h]; omega
  · intro b h; rw [lowerByte_eq, if_pos h]

theorem isLead_upper (b : Nat) : (upperByte b < 128 || 192 ≤ upperByte b) = (b < 128 || 192 ≤ b) :=
  rangeMap_isLead upperByte_eq (by decide) (fun b h => by omega) b

theorem isLead_lower (b : Nat) : (lowerByte b < 128 || 192 ≤ lowerByte b) = (b < 128 || 192 ≤ b) :=
  rangeMap_isLead lowerByte_eq (by decide) (fun b h => by omega) b

/-- LENGTH counts characters: additive over `||`, unchanged by UPPER / LOWER, the number of bytes of an ASCII text -/
theorem length_laws (a b : List Nat) :
    charCount (a ++ b) = charCount a + charCount b ∧
    charCount (a.map upperByte) = charCount a ∧ charCount (a.map lowerByte) = charCount a ∧
    ((∀ x ∈ a, x < 128) → charCount a = a.length) := by
  have key : ∀ f : Nat → Nat, (∀ x, (f x < 128 || 192 ≤ f x) = (x < 128 || 192 ≤ x)) →
      charCount (a.map f) = charCount a := by
    intro f hf
    simp only [charCount, List.filter_map, List.length_map]
    exact congrArg List.length (List.filter_congr fun x _ => hf x)
  refine ⟨by simp [charCount], key _ isLead_upper, key _ isLead_lower, ?_⟩
  · intro h
    simp only [charCount]
    rw [List.filter_eq_self.mpr]
    intro x hx
    simp [h x hx]

/-- LTRIM removes exactly the leading spaces, RTRIM exactly the trailing ones -/
theorem trim_def (s : List Nat) :
    (∃ n, s = List.replicate n 32 ++ ltrimBytes s) ∧ (ltrimBytes s).head? ≠ some 32 ∧
    (∃ n, s = rtrimBytes s ++ List.replicate n 32) ∧ (rtrimBytes s).getLast? ≠ some 32 := by
  have hl := ltrimBytes_spec
  refine ⟨(hl s).1, (hl s).2, ?_, ?_⟩
  · obtain ⟨n, hn⟩ := (hl s.reverse).1
    refine ⟨n, ?_⟩
    have := congrArg List.reverse hn
    simpa [rtrimBytes] using this
  · have := (hl s.reverse).2
    simpa [rtrimBytes, List.getLast?_reverse] using this

/-- trimming twice is trimming once; `||` is associative with the empty text as unit -/
theorem trim_concat_laws (s t u : List Nat) :
    ltrimBytes (ltrimBytes s) = ltrimBytes s ∧ rtrimBytes (rtrimBytes s) = rtrimBytes s ∧
    concatV (.text s) (.text []) = .ok (.text s) ∧
    (concatV (.text s) (.text t)).bind (concatV · (.text u)) = (concatV (.text t) (.text u)).bind (concatV (.text s) ·) := by
  have hl := ltrimBytes_idem
  refine ⟨hl s, ?_, by simp [concatV], ?_⟩
  · simp [rtrimBytes, hl]
  · simp [concatV, Except.bind, List.append_assoc]

/-! ## DOUBLE values (compare-only: no floating-point operation is modelled) -/

/-- DOUBLE values are compared through their order keys, are NULL-strict like every comparison, pass unchanged into a
    DOUBLE column and into no other, and take no part in arithmetic -/
theorem double_compare_only (op : CmpOp) (a b : Int) (ty : Ty) (aop : ArithOp) (v : Value) (hv : v ≠ .null) :
    cmp3 op (.dbl a) (.dbl b) = some (op.holds (cmpInt a b)) ∧
    cmp3 op (.dbl a) .null = none ∧
    (castTo ty (.dbl a) = if ty = .double ∨ ty = .float then .ok (.dbl a) else .error .type) ∧
    (∀ uns, arith .none uns aop (.dbl a) v = .error .type) := by
  refine ⟨rfl, rfl, ?_, ?_⟩
  · cases ty <;> simp [castTo]
  · intro uns; cases v <;> first | exact absurd rfl hv | rfl

/-- integer arithmetic is the promotion table of the engine: division or modulo by zero is an error; otherwise the result
    is the exact integer result if the promoted type holds it — BIGUINT (0 … 2^64 - 1) when both operands are of an
    unsigned kind, BIGINT (-2^63 … 2^63 - 1) for every other pair — and an overflow error if it does not -/
theorem int_arith_def (tys : List Ty) (row : Row) (op : ArithOp) (a b : Expr) (x y : Int)
    (ha : eval .none tys row a = .ok (.int x)) (hb : eval .none tys row b = .ok (.int y)) :
    eval .none tys row (.arith op a b) =
      if (op = .div ∨ op = .mod) ∧ y = 0 then .error .divzero
      else if fitsPromoted (rtUnsigned tys a && rtUnsigned tys b) (exactInt op x y) then .ok (.int (exactInt op x y))
      else .error .overflow := by
  simp only [eval, ha, hb, arith, arithInt, Defects.none, Bool.false_eq_true, if_false, Bool.and_eq_true,
    Bool.or_eq_true, decide_eq_true_eq]

/-- the ranges of the two result types -/
theorem fitsPromoted_iff (r : Int) :
    (fitsPromoted true r = true ↔ 0 ≤ r ∧ r ≤ 18446744073709551615) ∧
    (fitsPromoted false r = true ↔ -9223372036854775808 ≤ r ∧ r ≤ 9223372036854775807) := by
  simp only [fitsPromoted, fitsI64, i64Min, i64Max, u64Max, if_true, Bool.false_eq_true, if_false, Bool.and_eq_true,
    decide_eq_true_iff]
  exact ⟨⟨fun h => ⟨h.1, of_decide_eq_true h.2⟩, fun h => ⟨h.1, decide_eq_true h.2⟩⟩,
    ⟨fun h => ⟨of_decide_eq_true h.1, of_decide_eq_true h.2⟩, fun h => ⟨decide_eq_true h.1, decide_eq_true h.2⟩⟩⟩

/-- which operands are of an unsigned kind: columns of type UINT / BIGUINT and unsigned (op) unsigned; a literal never -/
theorem promotion_table (tys : List Ty) (op : ArithOp) (a b : Expr) (i : Nat) (v : Value) :
    rtUnsigned tys (.arith op a b) = (rtUnsigned tys a && rtUnsigned tys b) ∧
    rtUnsigned tys (.col i) = (tys.getD i .bigint == .uint || tys.getD i .bigint == .biguint) ∧
    rtUnsigned tys (.lit v) = false := by
  refine ⟨rfl, ?_, rfl⟩
  show (tys.getD i .bigint).isUnsigned = _
  cases tys.getD i .bigint <;> rfl

/-- there is no unary minus on an unsigned value -/
theorem neg_unsigned (tys : List Ty) (row : Row) (e : Expr) (x : Int)
    (he : eval .none tys row e = .ok (.int x)) (hu : rtUnsigned tys e = true) :
    eval .none tys row (.neg e) = .error .type := by
  simp [eval, he, hu]

theorem firstNonNull_spec (vs : List Value) :
    (firstNonNull vs = .null ↔ ∀ v ∈ vs, v = .null) ∧
    (∀ pre v post, vs = pre ++ v :: post → (∀ w ∈ pre, w = .null) → v ≠ .null → firstNonNull vs = v) := by
  fun_induction firstNonNull vs with
  | case1 => exact ⟨⟨fun _ _ h => (nomatch h), fun _ => rfl⟩, fun pre v post h => by simp at h⟩
  | case2 vs ih =>
    rw [List.forall_mem_cons]
    refine ⟨ih.1.trans ⟨fun h => ⟨rfl, h⟩, And.right⟩, fun pre v post h hp hv => ?_⟩
    cases pre with
    | nil => exact absurd (List.cons.inj h).1.symm hv
    | cons p pre => exact ih.2 pre v post (List.cons.inj h).2 (fun w hw => hp w (List.mem_cons_of_mem _ hw)) hv
  | case3 x xs hx =>
    rw [List.forall_mem_cons]
    refine ⟨⟨fun h => absurd h hx, fun h => h.1⟩, fun pre v post h hp hv => ?_⟩
    cases pre with
    | nil => exact (List.cons.inj h).1
    | cons p pre => exact absurd (hp x ((List.cons.inj h).1 ▸ List.mem_cons_self)) hx

/-- COALESCE evaluates all its arguments and returns the first that is not NULL (NULL if there is none), cast to the type
    of the first argument that has a type -/
theorem coalesce_def (tys : List Ty) (row : Row) (xs : List Expr) (vs : List Value)
    (h : evalList .none tys row xs = .ok vs) :
    eval .none tys row (.coalesce xs) = castTo ((inferFirst tys xs).getD .bool) (firstNonNull vs) ∧
    (firstNonNull vs = .null ↔ ∀ v ∈ vs, v = .null) ∧
    (∀ pre v post, vs = pre ++ v :: post → (∀ w ∈ pre, w = .null) → v ≠ .null → firstNonNull vs = v) := by
  refine ⟨?_, (firstNonNull_spec vs).1, (firstNonNull_spec vs).2⟩
  simp only [eval, Defects.none] at h ⊢
  rw [h]

/-- NULLIF(a, b) is NULL if a = b is TRUE and a otherwise (so also when b is NULL), with the type of a -/
theorem nullif_def (tys : List Ty) (row : Row) (a b : Expr) (va vb : Value)
    (ha : eval .none tys row a = .ok va) (hb : eval .none tys row b = .ok vb) :
    eval .none tys row (.nullif a b) =
      castTo (inferTy tys a) (if cmp3 .eq va vb = some true then .null else va) ∧
    (vb = .null → eval .none tys row (.nullif a b) = castTo (inferTy tys a) va) ∧
    (va ≠ .null → vb = va → eval .none tys row (.nullif a b) = .ok .null) := by
  have key : eval .none tys row (.nullif a b) =
      castTo (inferTy tys a) (if cmp3 .eq va vb = some true then .null else va) := by
    simp only [eval, Defects.none] at ha hb ⊢
    rw [ha, hb]
    simp only []
    by_cases hc : cmp3 .eq va vb = some true <;> simp [hc]
  refine ⟨key, ?_, ?_⟩
  · rintro rfl
    rw [key, (cmp3_null_iff .eq va .null).mpr (Or.inr rfl)]
    rfl
  · intro hn he
    subst he
    rw [key]
    have : cmp3 .eq vb vb = some true := by
      cases vb <;> first | exact absurd rfl hn | (show some (CmpOp.holds .eq (Value.cmp _ _)) = _; rw [Value.cmp_self]; rfl)
    simp [this, castTo]

/-- ABS of an integer is the DOUBLE nearest to |v| (exact below 2^53; -2^63 has the absolute value 2^63), of a DOUBLE
    the value with the sign cleared, of NULL NULL; CEIL, FLOOR and ROUND of an integer are that integer as a DOUBLE -/
theorem abs_def (v k : Int) :
    strFn1 .abs (.int v) = .ok (dblOfInt (v.natAbs : Int)) ∧
    strFn1 .abs (.dbl k) = .ok (.dbl (k.natAbs : Int)) ∧
    strFn1 .abs .null = .ok .null ∧
    strFn1 .ceil (.int v) = .ok (dblOfInt v) ∧ strFn1 .floor (.int v) = .ok (dblOfInt v) ∧
    strFn1 .round (.int v) = .ok (dblOfInt v) := ⟨rfl, rfl, rfl, rfl, rfl, rfl⟩

/-- by order key (the bits of |x|, negated for x < 0): ABS(-7) = 7.0, ABS(-2^63) = 2^63; of -2.5: FLOOR -3.0, CEIL -2.0,
    ROUND -3.0 (halves away from zero); ROUND(0.5) = 1.0; of -0.125: FLOOR -1.0, CEIL 0 -/
theorem num_fn_examples :
    strFn1 .abs (.int (-7)) = .ok (.dbl 4619567317775286272) ∧
    strFn1 .abs (.int (-9223372036854775808)) = .ok (.dbl 4890909195324358656) ∧
    strFn1 .floor (.dbl (-4612811918334230528)) = .ok (.dbl (-4613937818241073152)) ∧
    strFn1 .ceil (.dbl (-4612811918334230528)) = .ok (.dbl (-4611686018427387904)) ∧
    strFn1 .round (.dbl (-4612811918334230528)) = .ok (.dbl (-4613937818241073152)) ∧
    strFn1 .round (.dbl 4602678819172646912) = .ok (.dbl 4607182418800017408) ∧
    strFn1 .floor (.dbl (-4593671619917905920)) = .ok (.dbl (-4607182418800017408)) ∧
    strFn1 .ceil (.dbl (-4593671619917905920)) = .ok (.dbl 0) := by decide +kernel

def kindOfTy : Ty → Option AxVerif.Value.Kind
  | .int => some .int | .bigint => some .bigint | .uint => some .uint | .biguint => some .biguint
  | _ => none

theorem cast_aux (k ks : AxVerif.Value.Kind) (i lo hi klo khi : Int)
    (hr : ks.intRange = some (lo, hi)) (hk : k.intRange = some (klo, khi)) (hlo : lo ≤ i) (hhi : i ≤ hi) :
    match AxVerif.Value.tryCast {} (AxVerif.Value.Value.ofInt ks i) k with
    | .ok w => (if (decide (klo ≤ i) && decide (i ≤ khi)) = true then (Except.ok (Value.int i) : Except Err Value)
                else .error .type) = .ok (.int i) ∧ w.intVal = some i
    | .error _ => (if (decide (klo ≤ i) && decide (i ≤ khi)) = true then (Except.ok (Value.int i) : Except Err Value)
                else .error .type) = .error .type := by
  rw [AxVerif.Value.tryCast_ofInt {} ks k i lo hi klo khi hr hk hlo hhi]
  by_cases h : klo ≤ i ∧ i ≤ khi
  · rw [if_pos h]; exact ⟨if_pos (by simpa using h), (AxVerif.Value.ofInt_intVal k i klo khi hk h.1).2⟩
  · rw [if_neg h]; exact if_neg (by simpa using h)

/-- The cast applied to a produced integer (projection, INSERT, UPDATE, function results) agrees with C19's model of
    `DataType::try_cast` for every pair of integer kinds: it succeeds with the same integer exactly when `try_cast` does.
    (The SQL grammar has no CAST expression: these implicit casts are the casts a statement can reach.) -/
theorem cast_agrees_with_C19 (ty : Ty) (k ks : AxVerif.Value.Kind) (i lo hi : Int)
    (hk : kindOfTy ty = some k) (hr : ks.intRange = some (lo, hi)) (hlo : lo ≤ i) (hhi : i ≤ hi) :
    match AxVerif.Value.tryCast {} (AxVerif.Value.Value.ofInt ks i) k with
    | .ok w => castTo ty (.int i) = .ok (.int i) ∧ w.intVal = some i
    | .error _ => castTo ty (.int i) = .error .type := by
  -- for each of the four integer types `castTo` is, by unfolding, the range test of its kind
  cases ty <;> cases hk <;> exact cast_aux _ ks i lo hi _ _ hr rfl hlo hhi

/-- COUNT(expr) counts the non-NULL values only; COUNT(*) counts rows -/
theorem count_col_ignores_null (vs : List Value) :
    aggregate .none .count vs = .ok (.int (vs.filter (· != .null)).length) ∧
    aggregate .none .count (.null :: vs) = aggregate .none .count vs ∧
    aggregate .none .countStar vs = .ok (.int vs.length) := by
  simp [aggregate, nonNull]

/-- every aggregate except COUNT(*) ignores NULL inputs -/
theorem aggregates_ignore_null (f : AggFn) (hf : f ≠ .countStar) (vs : List Value) :
    aggregate .none f (.null :: vs) = aggregate .none f vs := by
  cases f <;> simp [aggregate, nonNull_cons_null] at hf ⊢

/-- aggregates over no non-NULL value: COUNT is 0, the others are NULL -/
theorem aggregates_of_nothing (vs : List Value) (h : ∀ v ∈ vs, v = .null) :
    aggregate .none .count vs = .ok (.int 0) ∧ aggregate .none .sum vs = .ok .null ∧
    aggregate .none .avg vs = .ok .null ∧ aggregate .none .min vs = .ok .null ∧
    aggregate .none .max vs = .ok .null := by
  have : nonNull vs = [] := by
    simp only [nonNull, List.filter_eq_nil_iff, bne_iff_ne, ne_eq]
    intro v hv hn
    exact hn (h v hv)
  simp [aggregate, this, minVal, maxVal]

/-- SUM is the sum and AVG the quotient sum / count (a rational in lowest terms) of the non-NULL values
    (when no overflow is reported) -/
theorem sum_avg_def (is : List Int) (hne : is ≠ []) (v : Value) :
    (aggregate .none .sum (is.map .int) = .ok v → v = .int is.sum) ∧
    (aggregate .none .avg (is.map .int) = .ok v → v = ratNorm is.sum is.length) := by
  have hnn : nonNull (is.map .int) = is.map .int := by
    simp only [nonNull, List.filter_eq_self, List.mem_map, bne_iff_ne, ne_eq]
    rintro _ ⟨i, _, rfl⟩; simp
  -- with at least one value both aggregates are `sumInts` of the values, which is their sum when it succeeds
  obtain ⟨i, is', rfl⟩ := List.exists_cons_of_ne_nil hne
  have hsum := sumInts_eq (i :: is')
  rw [List.map_cons] at hnn hsum
  constructor <;> intro h <;> simp only [aggregate, List.map_cons, hnn, Defects.none] at h
  · cases hs : sumInts {} (Value.int i :: is'.map .int) with
    | error e => rw [hs] at h; cases h
    | ok s => rw [hs] at h; cases h; rw [hsum s hs]
  · cases hs : sumInts {} (Value.int i :: is'.map .int) with
    | error e => rw [hs] at h; cases h
    | ok s => rw [hs] at h; cases h; rw [hsum s hs, List.length_cons, List.length_map, List.length_cons]

/-- MIN / MAX return an element of the group that is ≤ / ≥ every non-NULL element -/
theorem min_max_def (vs : List Value) (h : ∃ v ∈ vs, v ≠ .null) :
    ∃ mn mx, aggregate .none .min vs = .ok mn ∧ aggregate .none .max vs = .ok mx ∧
      mn ∈ vs ∧ mx ∈ vs ∧ mn ≠ .null ∧ mx ≠ .null ∧
      ∀ v ∈ vs, v ≠ .null → mn.cmp v ≠ .gt ∧ v.cmp mx ≠ .gt := by
  obtain ⟨v0, hv0, hn0⟩ := h
  have hne : nonNull vs ≠ [] := List.ne_nil_of_mem ((nonNull_mem vs v0).mpr ⟨hv0, hn0⟩)
  have hnn : ∀ v ∈ nonNull vs, v ≠ .null := fun v hv => ((nonNull_mem vs v).mp hv).2
  obtain ⟨hmin, hminle⟩ := (minVal_spec (nonNull vs) hnn).2 hne
  obtain ⟨hmax, hmaxle⟩ := (maxVal_spec (nonNull vs) hnn).2 hne
  rw [nonNull_mem] at hmin hmax
  refine ⟨_, _, rfl, rfl, hmin.1, hmax.1, hmin.2, hmax.2, fun v hv hn => ?_⟩
  have hv' := (nonNull_mem vs v).mpr ⟨hv, hn⟩
  exact ⟨hminle v hv', hmaxle v hv'⟩

def holds (tys : List Ty) (w : Expr) (r : Row) : Bool :=
  match eval .none tys r w with
  | .ok (.bool true) => true
  | _ => false

theorem isTrueOn_evalPred (tys : List Ty) (w : Expr) : isTrueOn (evalPred .none tys w) = holds tys w := by
  funext r
  simp only [isTrueOn, evalPred, holds]
  cases h : eval {} tys r w with
  | error e => rfl
  | ok v =>
    cases v with
    | bool b => cases b <;> rfl
    | _ => rfl

/-- WHERE keeps exactly the rows on which the condition is TRUE — not FALSE, not unknown — in their order,
    for every table and every condition (if no row raises an error) -/
theorem where_keeps_only_true (tys : List Ty) (w : Expr) (rows out : List Row)
    (h : applyWhere .none tys (some w) rows = .ok out) :
    out = rows.filter (holds tys w) := by
  rw [filterRows_eq _ _ _ h, isTrueOn_evalPred]

/-- without WHERE all rows are kept -/
theorem where_absent (tys : List Ty) (rows : List Row) : applyWhere .none tys none rows = .ok rows := rfl

/-- AGG(DISTINCT expr) sees every distinct non-NULL value exactly once: its input has no duplicates, no NULL, and
    the same members as the non-NULL argument values; so COUNT(DISTINCT expr) is the number of distinct non-NULL values -/
theorem distinct_aggregate_input (a : Agg) (hd : a.distinct = true) (hf : a.fn ≠ .countStar) (vs : List Value) :
    (aggInput a vs).Nodup ∧ (∀ v, v ∈ aggInput a vs ↔ (v ∈ vs ∧ v ≠ .null)) ∧
    aggregate .none .count (aggInput a vs) = .ok (.int (aggInput a vs).length) := by
  have hin : aggInput a vs = dedupV (nonNull vs) := by
    simp only [aggInput, hd, Bool.true_and]
    have : (a.fn != AggFn.countStar) = true := by simpa using hf
    simp [this]
  obtain ⟨hnd, hmem⟩ := firstOccurrences_spec (dd := dedupV) rfl (fun _ _ => rfl) (nonNull vs)
  rw [hin]
  refine ⟨hnd, fun v => by rw [hmem, nonNull_mem], ?_⟩
  have hnn : nonNull (dedupV (nonNull vs)) = dedupV (nonNull vs) := by
    simp only [nonNull, List.filter_eq_self, bne_iff_ne, ne_eq]
    intro v hv
    exact ((nonNull_mem vs v).mp ((hmem v).mp hv)).2
  simp [aggregate, hnn]

/-- an aggregate query: group, compute the aggregate row of every group (keys, then aggregates), keep the groups on
    which HAVING is TRUE — not FALSE, not unknown —, project the select list over the aggregate row -/
theorem aggregate_query_pipeline (tys : List Ty) (q : Select) (hq : q.isAgg = true) (rows out : List Row)
    (h : produce .none tys q rows = .ok out) :
    ∃ keyed arows, keyRows .none tys q.groupBy rows = .ok keyed ∧
      mapE (aggRow .none tys q.groupBy q.aggs) (groupsOf q.groupBy.isEmpty keyed) = .ok arows ∧
      projectAll .none (aggTys tys q.groupBy q.aggs) q.items
        (match q.having with
         | none => arows
         | some hv => arows.filter (holds (aggTys tys q.groupBy q.aggs) hv)) = .ok out := by
  revert h
  fun_cases produce .none tys q rows with
  | case1 hna => rw [hq] at hna; cases hna
  | case5 hagg keyed hk arows ha atys kept hw =>
    intro h
    refine ⟨keyed, arows, hk, ha, ?_⟩
    cases hh : q.having with
    | none => rw [hh] at hw; cases hw; exact h
    | some hv => rw [hh] at hw; rw [where_keeps_only_true _ hv arows kept hw] at h; exact h
  | _ => intro h; cases h

/-! ## Joins (on a decided match relation `m`; `evalFrom` decides it by evaluating ON for every pair) -/

/-- INNER JOIN: exactly the concatenations of the matching pairs … -/
theorem join_inner_def (m : Row → Row → Bool) (lw rw : Nat) (l r : List Row) (x : Row) :
    x ∈ joinPure .inner m lw rw l r ↔ ∃ a ∈ l, ∃ b ∈ r, m a b = true ∧ x = a ++ b := by
  simp only [joinPure, joinLeftPart_false, innerPairs, List.mem_flatMap, mem_matchesOf]

/-- … each as often as the pair occurs: the list comprehension over left rows, then right rows -/
theorem join_inner_eq (m : Row → Row → Bool) (lw rw : Nat) (l r : List Row) :
    joinPure .inner m lw rw l r = l.flatMap (fun a => (r.filter (m a)).map (a ++ ·)) := by
  simp [joinPure, joinLeftPart_false, innerPairs, matchesOf]

/-- CROSS JOIN is the inner join with the always-true condition: the Cartesian product -/
theorem join_cross_def (lw rw : Nat) (l r : List Row) :
    joinPure .cross (fun _ _ => true) lw rw l r = l.flatMap (fun a => r.map (a ++ ·)) := by
  simp only [joinPure, joinLeftPart_false, innerPairs, matchesOf]
  congr 1
  funext a
  rw [List.filter_eq_self.mpr (fun _ _ => rfl)]

/-- LEFT JOIN = the inner join plus every left row without a match, padded with NULLs (as multisets) -/
theorem join_left_def (m : Row → Row → Bool) (lw rw : Nat) (l r : List Row) :
    (joinPure .left m lw rw l r).Perm
      (joinPure .inner m lw rw l r ++ (l.filter (fun a => !(r.any (m a)))).map (· ++ nulls rw)) := by
  simp only [joinPure, joinLeftPart_false]
  exact joinLeftPart_true_perm m rw l r

/-- RIGHT JOIN = the inner join plus every right row without a match, padded with NULLs on the left -/
theorem join_right_def (m : Row → Row → Bool) (lw rw : Nat) (l r : List Row) :
    joinPure .right m lw rw l r =
      joinPure .inner m lw rw l r ++ (r.filter (fun b => !(l.any (fun a => m a b)))).map (nulls lw ++ ·) := by
  simp [joinPure, unmatchedRight]

/-- RIGHT JOIN is the mirror image of LEFT JOIN (inputs exchanged, converse condition, columns put back) -/
theorem join_right_mirror (m : Row → Row → Bool) (lw rw : Nat) (l r : List Row)
    (hr : ∀ b ∈ r, b.length = rw) :
    (joinPure .right m lw rw l r).Perm
      ((joinPure .left (fun b a => m a b) rw lw r l).map (swapCols rw)) := by
  simp only [joinPure]
  rw [joinLeftPart_false]
  have h1 := (joinLeftPart_true_perm (fun b a => m a b) lw r l).map (swapCols rw)
  refine List.Perm.trans ?_ h1.symm
  rw [List.map_append]
  refine List.Perm.append ?_ ?_
  · simp only [innerPairs, matchesOf, List.map_flatMap, List.map_map]
    have h2 := pairs_swap m (fun a b => a ++ b) l r
    refine h2.trans (List.Perm.of_eq ?_)
    refine flatMap_congr_mem _ _ _ ?_
    intro b hb
    refine List.map_congr_left ?_
    intro a _
    simp only [Function.comp]
    rw [← hr b hb, swapCols_append]
  · refine List.Perm.of_eq ?_
    simp only [unmatchedRight, unmatchedLeft, List.map_map]
    refine List.map_congr_left ?_
    intro b hb
    simp only [Function.comp, List.mem_filter] at hb ⊢
    rw [← hr b hb.1, swapCols_append]

/-- FULL JOIN = LEFT JOIN plus the unmatched right rows -/
theorem join_full_def (m : Row → Row → Bool) (lw rw : Nat) (l r : List Row) :
    joinPure .full m lw rw l r =
      joinPure .left m lw rw l r ++ (r.filter (fun b => !(l.any (fun a => m a b)))).map (nulls lw ++ ·) := by
  simp [joinPure, unmatchedRight]

/-- every left row survives a LEFT/FULL join, every right row a RIGHT/FULL join (outer joins lose no row) -/
theorem outer_join_preserves (m : Row → Row → Bool) (lw rw : Nat) (l r : List Row) :
    (∀ a ∈ l, ∃ x ∈ joinPure .left m lw rw l r, x.take a.length = a) ∧
    (∀ b ∈ r, ∃ x ∈ joinPure .right m lw rw l r, x.drop (x.length - b.length) = b) := by
  constructor
  · intro a ha
    simp only [(join_left_def m lw rw l r).mem_iff]
    by_cases hany : r.any (m a) = true
    · rcases List.any_eq_true.mp hany with ⟨b, hb, hm⟩
      refine ⟨a ++ b, ?_, by simp⟩
      exact List.mem_append_left _ ((join_inner_def m lw rw l r _).mpr ⟨a, ha, b, hb, hm, rfl⟩)
    · refine ⟨a ++ nulls rw, ?_, by simp⟩
      refine List.mem_append_right _ (List.mem_map.mpr ⟨a, List.mem_filter.mpr ⟨ha, ?_⟩, rfl⟩)
      simpa using hany
  · intro b hb
    rw [join_right_def]
    by_cases hany : l.any (fun a => m a b) = true
    · rcases List.any_eq_true.mp hany with ⟨a, ha, hm⟩
      refine ⟨a ++ b, ?_, by simp⟩
      exact List.mem_append_left _ ((join_inner_def m lw rw l r _).mpr ⟨a, ha, b, hb, hm, rfl⟩)
    · refine ⟨nulls lw ++ b, ?_, by simp⟩
      refine List.mem_append_right _ (List.mem_map.mpr ⟨b, List.mem_filter.mpr ⟨hb, ?_⟩, rfl⟩)
      simpa using hany

/-- DISTINCT: no duplicates, the same rows, first occurrences in their order; nothing to do on a duplicate-free input -/
theorem distinct_nodup_subset (rows : List Row) :
    (dedup rows).Nodup ∧ (∀ r, r ∈ dedup rows ↔ r ∈ rows) ∧ (dedup rows).Sublist rows ∧
    (rows.Nodup → dedup rows = rows) :=
  ⟨nodup_dedup rows, mem_dedup rows, dedup_sublist rows, dedup_of_nodup rows⟩

/-- ORDER BY returns a permutation of its input that is sorted under the key comparison (any directions,
    either NULL placement).  Rows whose keys tie may come in any order. -/
theorem sort_perm_sorted (nullsFirst : Bool) (dirs : List Bool) (keyed : List (List Value × Row)) :
    (sortRows nullsFirst dirs keyed).Perm (keyed.map (·.2)) ∧
    (sortBy (leKeys nullsFirst dirs) keyed).Pairwise (fun a b => cmpKeys nullsFirst dirs a.1 b.1 ≠ .gt) := by
  constructor
  · exact (perm_sortBy _ keyed).map _
  · have := sorted_sortBy (leKeys nullsFirst dirs) (leKeys_total nullsFirst dirs) (leKeys_trans nullsFirst dirs) keyed
    refine this.imp ?_
    intro a b h
    simpa [leKeys] using h

/-- the key comparison is a total preorder, the NULL placement is as the parameter says, DESC reverses ASC -/
theorem order_comparator (nullsFirst : Bool) (dirs : List Bool) :
    IsPreorderCmp (cmpKeys nullsFirst dirs) ∧
    (∀ v, v ≠ .null → cmpKey false true v .null = .lt ∧ cmpKey true true v .null = .gt) ∧
    (∀ a b, cmpKey nullsFirst false a b = (cmpKey nullsFirst true a b).swap) := by
  refine ⟨cmpKeys_pre nullsFirst dirs, ?_, fun a b => rfl⟩
  intro v hv
  cases v <;> simp [cmpKey, cmpNullable] at hv ⊢

/-- LIMIT / OFFSET = drop, then take -/
theorem limit_offset_def (rows : List Row) (l o : Nat) :
    limitOffset (some l) o rows = (rows.drop o).take l ∧
    limitOffset none o rows = rows.drop o ∧
    (limitOffset (some l) o rows).length = min l (rows.length - o) :=
  ⟨rfl, rfl, limitOffset_length l o rows⟩

/-- GROUP BY partitions its input: the keys of the groups are pairwise different, the members of a group are
    exactly the input rows with its key (in input order, never empty), and together the groups are the input -/
theorem group_partition {α} (key : α → List Value) (xs : List α) :
    ((groupBy key xs).map (·.1)).Nodup ∧
    (∀ g ∈ groupBy key xs, g.2 = xs.filter (fun x => key x == g.1) ∧ g.2 ≠ []) ∧
    ((groupBy key xs).flatMap (·.2)).Perm xs :=
  ⟨groupBy_keys_nodup key xs, groupBy_members key xs, groupBy_perm key xs⟩

/-- DELETE removes exactly the rows on which the condition is TRUE and reports their number -/
theorem delete_touches_exactly (tys : List Ty) (w : Expr) (rows rest : List Row) (n : Nat)
    (h : deleteRows (predOf .none tys (some w)) rows = .ok (rest, n)) :
    rest = rows.filter (fun r => !holds tys w r) ∧ n = (rows.filter (holds tys w)).length ∧
    rest.length + n = rows.length :=
  isTrueOn_evalPred tys w ▸ deleteRows_eq _ _ _ _ h

/-- UPDATE rewrites exactly the rows on which the condition is TRUE (row by row, in place), leaves the others
    untouched, keeps the number of rows, and reports the number of rewritten rows -/
theorem update_touches_exactly (tys : List Ty) (w : Expr) (assign : Row → Except Err Row)
    (rows rows' : List Row) (n : Nat)
    (h : updateRows (predOf .none tys (some w)) assign rows = .ok (rows', n)) :
    n = (rows.filter (holds tys w)).length ∧ rows'.length = rows.length ∧
    ∀ i (hi : i < rows.length) (hj : i < rows'.length),
      (holds tys w rows[i] = true → assign rows[i] = .ok rows'[i]) ∧
      (holds tys w rows[i] = false → rows'[i] = rows[i]) :=
  isTrueOn_evalPred tys w ▸ updateRows_eq _ _ _ _ _ h

def wT' : TableDef := { tys := [.int, .int], rows := [[.int 1, .int 10]] }

/-! ## The evaluator is built from these operators -/

def onMatch (tys : List Ty) (on : Option Expr) (a b : Row) : Bool :=
  match on with
  | none => true
  | some c => holds tys c (a ++ b)

/-- a join in FROM is `joinPure` on the inputs' rows with the relation "ON is TRUE on the concatenated row" -/
theorem from_join_is_joinPure (db : Db) (k : JoinKind) (l r : From) (on : Option Expr) (out : List Row)
    (h : evalFrom .none db (.join k l r on) = .ok out) :
    ∃ lrows rrows, evalFrom .none db l = .ok lrows ∧ evalFrom .none db r = .ok rrows ∧
      out = joinPure k (onMatch (l.tys db ++ r.tys db) on) (l.tys db).length (r.tys db).length lrows rrows := by
  rw [evalFrom_join] at h
  split at h
  · cases h
  · next lrows hl =>
    split at h
    · cases h
    · next rrows hr =>
      split at h
      · cases h
      · cases h
        refine ⟨lrows, rrows, hl, hr, ?_⟩
        congr 1
        funext a b
        cases on with
        | none => rfl
        | some c => exact congrFun (isTrueOn_evalPred (l.tys db ++ r.tys db) c) (a ++ b)

/-- the query a derived table `(SELECT items FROM f [WHERE w]) AS r` stands for -/
def derivedQuery (f : From) (w : Option Expr) (items : List Expr) : Select :=
  { distinct := false, from_ := f, where_ := w, groupBy := [], aggs := [], items := some items, orderBy := [],
    limit := none, offset := none }

/-- a derived table in FROM supplies exactly the rows its query returns (errors included), under the schema its
    select list infers -/
theorem derived_table_is_its_query (nullsFirst : Bool) (db : Db) (f : From) (w : Option Expr) (items : List Expr) :
    evalFrom .none db (.derived f w items) = evalSelect .none nullsFirst db (derivedQuery f w items) ∧
    (From.derived f w items).tys db = items.map (inferTy (f.tys db)) := by
  refine ⟨?_, rfl⟩
  rw [derivedQuery, evalSelect_plain]
  rfl

/-- `SELECT * FROM (query) AS r` is the query -/
theorem derived_star_transparent (nullsFirst : Bool) (db : Db) (f : From) (w : Option Expr) (items : List Expr) :
    evalSelect .none nullsFirst db
      { distinct := false, from_ := .derived f w items, where_ := none, groupBy := [], aggs := [], items := none,
        orderBy := [], limit := none, offset := none } =
    evalSelect .none nullsFirst db (derivedQuery f w items) := by
  rw [← (derived_table_is_its_query nullsFirst db f w items).1, evalSelect_plain]
  cases evalFrom {} db (.derived f w items) <;> rfl

/-- SELECT = FROM, then WHERE, then projection or grouping, then ORDER BY, DISTINCT, OFFSET/LIMIT -/
theorem select_pipeline (nullsFirst : Bool) (db : Db) (q : Select) (out : List Row)
    (h : evalSelect .none nullsFirst db q = .ok out) :
    ∃ rows0 rows1 rows2, evalFrom .none db q.from_ = .ok rows0 ∧
      applyWhere .none (q.from_.tys db) q.where_ rows0 = .ok rows1 ∧
      produce .none (q.from_.tys db) q rows1 = .ok rows2 ∧
      out = limitOffset q.limit (q.offset.getD 0)
        ((if q.distinct then dedup else id)
          (if q.orderBy.isEmpty then rows2
           else sortRows nullsFirst (q.orderBy.map (·.2)) (rows2.map (keyedBy (q.orderBy.map (·.1)))))) := by
  revert h
  fun_cases evalSelect .none nullsFirst db q with
  | case4 tys rows0 h0 rows1 h1 rows2 h2 =>
    intro h
    cases h
    exact ⟨rows0, rows1, rows2, h0, h1, h2, by cases hd : q.distinct <;> simp only [finish, hd] <;> rfl⟩
  | _ => intro h; cases h

/-- INSERT with a column list: well-formed iff the list has as many columns as the row has values, names no column twice
    and only columns of the table; then column j of the stored row is the value written for it, NULL if it is not listed -/
theorem insert_column_list_def (ncols : Nat) (cols : List Nat) (row : List Expr) :
    (expandCols ncols cols row = none ↔ (cols.length ≠ row.length ∨ ¬ cols.Nodup ∨ ∃ c ∈ cols, ncols ≤ c)) ∧
    (∀ full, expandCols ncols cols row = some full →
      full.length = ncols ∧
      ∀ j, j < ncols → full[j]? = some (match (cols.zip row).find? (fun p => p.1 == j) with
        | some p => p.2
        | none => .lit .null)) := by
  have hc : (cols.length != row.length || !cols.Nodup || cols.any (fun c => c ≥ ncols)) = true ↔
      (cols.length ≠ row.length ∨ ¬ cols.Nodup ∨ ∃ c ∈ cols, ncols ≤ c) := by
    simp only [Bool.or_eq_true, bne_iff_ne, ne_eq, Bool.not_eq_true', decide_eq_false_iff_not, List.any_eq_true,
      ge_iff_le, decide_eq_true_eq, or_assoc]
  fun_cases expandCols ncols cols row with
  | case1 hbad => exact ⟨iff_of_true rfl (hc.mp hbad), fun full h => nomatch h⟩
  | case2 hgood =>
    refine ⟨iff_of_false (fun e => nomatch e) (mt hc.mpr hgood), fun full h => ?_⟩
    cases h
    refine ⟨by rw [List.length_map, List.length_range], fun j hj => ?_⟩
    rw [List.getElem?_map, List.getElem?_range hj]
    rfl

/-- `INSERT INTO t (c2, c0) VALUES (x, y)` on a table of three columns stores (y, NULL, x); a list naming a column twice,
    naming a column the table does not have, or with a value too few is ill-formed -/
theorem insert_column_list_examples :
    expandCols 3 [2, 0] [.lit (.int 7), .lit (.int 8)] = some [.lit (.int 8), .lit .null, .lit (.int 7)] ∧
    expandCols 3 [1, 1] [.lit (.int 7), .lit (.int 8)] = none ∧
    expandCols 3 [3] [.lit (.int 7)] = none ∧
    expandCols 3 [0, 1] [.lit (.int 7)] = none := by
  refine ⟨by rfl, by rfl, by rfl, by rfl⟩

/-- a statement that fails changes nothing -/
theorem failed_statement_no_effect (nullsFirst : Bool) (db : Db) (s : Stmt) (e : Err) (db' : Db)
    (h : execStmt .none nullsFirst db s = (db', .error e)) : db' = db := by
  -- every branch of `execStmt` returns either `(db, .error _)` or a pair whose outcome is not an error
  revert h
  fun_cases execStmt .none nullsFirst db s <;> intro h
  all_goals first | exact (Prod.mk.inj h).1.symm | exact nomatch (Prod.mk.inj h).2

/-- DELETE as a statement: the addressed table loses exactly the rows where the condition is TRUE, the count
    reported is their number, every other table is untouched -/
theorem exec_delete (nullsFirst : Bool) (db : Db) (t : Nat) (w : Expr) (td : TableDef) (db' : Db) (n : Nat)
    (ht : db[t]? = some td)
    (h : execStmt .none nullsFirst db (.delete t (some w)) = (db', .affected n)) :
    n = (td.rows.filter (holds td.tys w)).length ∧
    db'[t]? = some { td with rows := td.rows.filter (fun r => !holds td.tys w r) } ∧
    ∀ u, u ≠ t → db'[u]? = db[u]? := by
  simp only [execStmt, ht] at h
  split at h
  · cases h
  · next rest m hd =>
    cases h
    have hspec := delete_touches_exactly td.tys w td.rows rest n hd
    exact ⟨hspec.2.1, hspec.1 ▸ setTable_getElem? db t td rest ht⟩

/-- UPDATE as a statement: in the addressed table exactly the rows where the condition is TRUE are rewritten
    (each to its old value with the SET columns overwritten by the values of the SET expressions on the *old* row,
    cast to the column types), all other rows and all other tables are untouched, the row count is unchanged and
    the count reported is the number of rewritten rows -/
theorem exec_update (nullsFirst : Bool) (db : Db) (t : Nat) (sets : List (Nat × Expr)) (w : Expr) (td : TableDef)
    (db' : Db) (n : Nat) (ht : db[t]? = some td)
    (h : execStmt .none nullsFirst db (.update t sets (some w)) = (db', .affected n)) :
    n = (td.rows.filter (holds td.tys w)).length ∧
    (∀ u, u ≠ t → db'[u]? = db[u]?) ∧
    ∃ rows', db'[t]? = some { td with rows := rows' } ∧ rows'.length = td.rows.length ∧
      ∀ i (hi : i < td.rows.length) (hj : i < rows'.length),
        (holds td.tys w td.rows[i] = false → rows'[i] = td.rows[i]) ∧
        (holds td.tys w td.rows[i] = true → ∃ vals : List (Nat × Value),
          vals.map (·.1) = sets.map (·.1) ∧ rows'[i] = setCols td.rows[i] vals) := by
  simp only [execStmt, ht] at h
  split at h
  · cases h
  · next rows' m hu =>
    cases h
    have hspec := update_touches_exactly td.tys w _ td.rows rows' n hu
    have hset := setTable_getElem? db t td rows' ht
    refine ⟨hspec.1, hset.2, rows', hset.1, hspec.2.1, fun i hi hj => ⟨(hspec.2.2 i hi hj).2, fun htrue => ?_⟩⟩
    have hassign := (hspec.2.2 i hi hj).1 htrue
    unfold assignRow at hassign
    split at hassign
    · cases hassign
    · next vals hm => exact ⟨vals, evalSets_fst _ _ _ _ hm, (Except.ok.inj hassign).symm⟩

/-- INSERT appends as many rows as were given to the addressed table and reports their number; nothing else changes.
    (That the appended rows are the given ones, each value cast to its column type, is `execStmt`'s definition; it is
    not restated here.) -/
theorem exec_insert (nullsFirst : Bool) (db : Db) (t : Nat) (rows : List (List Expr)) (td : TableDef)
    (db' : Db) (n : Nat) (ht : db[t]? = some td)
    (h : execStmt .none nullsFirst db (.insert t rows) = (db', .affected n)) :
    n = rows.length ∧ (∀ u, u ≠ t → db'[u]? = db[u]?) ∧
    ∃ newRows, newRows.length = rows.length ∧ db'[t]? = some { td with rows := td.rows ++ newRows } := by
  simp only [execStmt, ht] at h
  split at h
  · cases h
  · split at h
    · cases h
    · next newRows hn =>
      cases h
      have hlen := (mapE_ok _ _ _ hn).1
      have hset := setTable_getElem? db t td (td.rows ++ newRows) ht
      exact ⟨hlen, hset.2, newRows, hlen, hset.1⟩

/-- Static typing of comparisons: a statement that compares a number with a text or a boolean (in =, <, BETWEEN, IN,
    simple CASE, anywhere in it) is rejected with a type error and changes nothing; every other statement runs as
    `execStmt` says. -/
theorem cross_category_comparison_rejected (nullsFirst : Bool) (db : Db) (s : Stmt) :
    (stmtIllTyped db s = true → execStmtTyped .none nullsFirst db s = (db, .error .type)) ∧
    (stmtIllTyped db s = false → execStmtTyped .none nullsFirst db s = execStmt .none nullsFirst db s) := by
  constructor <;> intro h <;> simp [execStmtTyped, h]

/-- e.g. `WHERE c1 = 'x'` on an INT column is ill-typed, `WHERE c1 = NULL` and `WHERE c1 = 1` are not -/
example : stmtIllTyped [wT'] (.delete 0 (some (.cmp .eq (.col 1) (.lit (.text [120]))))) = true ∧
    stmtIllTyped [wT'] (.delete 0 (some (.cmp .eq (.col 1) (.lit .null)))) = false ∧
    stmtIllTyped [wT'] (.delete 0 (some (.cmp .eq (.col 1) (.lit (.int 1))))) = false := by decide +kernel

def wT : TableDef := { tys := [.int, .int], rows := [[.int 1, .int 10], [.int 2, .null], [.int 3, .int 30]] }

def idsWhere (w : Expr) : Select :=
  { distinct := false, from_ := .table 0, where_ := some w, groupBy := [], aggs := [], items := some [.col 0],
    orderBy := [], limit := none, offset := none }

/-- `IS NOT NULL`, `NOT BETWEEN`, `NOT IN` keep every row under `negatedIsOr` (the spec keeps 2, 1, 1 rows) -/
theorem negatedIsOr_witness :
    evalSelect { negatedIsOr := true } false [wT] (idsWhere (.isNull true (.col 1))) = .ok [[.int 1], [.int 2], [.int 3]] ∧
    evalSelect .none false [wT] (idsWhere (.isNull true (.col 1))) = .ok [[.int 1], [.int 3]] ∧
    evalSelect { negatedIsOr := true } false [wT] (idsWhere (.between true (.col 1) (.lit (.int 5)) (.lit (.int 15))))
      = .ok [[.int 1], [.int 2], [.int 3]] ∧
    evalSelect .none false [wT] (idsWhere (.between true (.col 1) (.lit (.int 5)) (.lit (.int 15)))) = .ok [[.int 3]] ∧
    evalSelect { negatedIsOr := true } false [wT] (idsWhere (.inList true (.col 1) [.lit (.int 10), .lit (.int 20)]))
      = .ok [[.int 1], [.int 2], [.int 3]] ∧
    evalSelect .none false [wT] (idsWhere (.inList true (.col 1) [.lit (.int 10), .lit (.int 20)])) = .ok [[.int 3]] := by
  decide +kernel

/-- `'abc' NOT LIKE 'x%'` is FALSE under `notLikeFalse` (contradicts: NOT LIKE is the negation of LIKE) -/
theorem notLikeFalse_witness :
    eval { notLikeFalse := true } [] [] (.like true (.lit (.text [97, 98, 99])) (.lit (.text [120, 37]))) = .ok (.bool false) ∧
    eval .none [] [] (.like true (.lit (.text [97, 98, 99])) (.lit (.text [120, 37]))) = .ok (.bool true) ∧
    eval .none [] [] (.like false (.lit (.text [97, 98, 99])) (.lit (.text [120, 37]))) = .ok (.bool false) := by
  decide +kernel

/-- `NOT (NULL BETWEEN 5 AND 15)` is TRUE under `betweenTwoValued`; by `between_def` it is unknown -/
theorem betweenTwoValued_witness :
    eval { betweenTwoValued := true } [] [] (.not (.between false (.lit .null) (.lit (.int 5)) (.lit (.int 15)))) = .ok (.bool true) ∧
    eval .none [] [] (.not (.between false (.lit .null) (.lit (.int 5)) (.lit (.int 15)))) = .ok .null := by
  decide +kernel

/-- `NULL IN (10, NULL)` is TRUE and `NOT (30 IN (10, NULL))` is TRUE under `inTwoValued`; both are unknown
    (`in_null_value`, `not_in_null_semantics`) -/
theorem inTwoValued_witness :
    eval { inTwoValued := true } [] [] (.inList false (.lit .null) [.lit (.int 10), .lit .null]) = .ok (.bool true) ∧
    eval .none [] [] (.inList false (.lit .null) [.lit (.int 10), .lit .null]) = .ok .null ∧
    eval { inTwoValued := true } [] [] (.not (.inList false (.lit (.int 30)) [.lit (.int 10), .lit .null])) = .ok (.bool true) ∧
    eval .none [] [] (.not (.inList false (.lit (.int 30)) [.lit (.int 10), .lit .null])) = .ok .null := by
  decide +kernel

/-- COUNT(col) over (10, NULL, 30) is 3 under `countColCountsNull` (contradicts `count_col_ignores_null`) -/
theorem countColCountsNull_witness :
    aggregate { countColCountsNull := true } .count [.int 10, .null, .int 30] = .ok (.int 3) ∧
    aggregate .none .count [.int 10, .null, .int 30] = .ok (.int 2) := by
  decide +kernel

/-- `5 / 0` and `9223372036854775807 + 1` end in a worker panic under the flags; the spec reports the error class -/
theorem divZeroPanics_witness :
    eval { divZeroPanics := true } [] [] (.arith .div (.lit (.int 5)) (.lit (.int 0))) = .error .panic ∧
    eval { divZeroPanics := true } [] [] (.arith .mod (.lit (.int 5)) (.lit (.int 0))) = .error .panic ∧
    eval .none [] [] (.arith .div (.lit (.int 5)) (.lit (.int 0))) = .error .divzero := by
  decide +kernel

theorem overflowPanics_witness :
    eval { overflowPanics := true } [] [] (.arith .add (.lit (.int 9223372036854775807)) (.lit (.int 1))) = .error .panic ∧
    eval { overflowPanics := true } [] [] (.neg (.lit (.int (-9223372036854775808)))) = .error .panic ∧
    eval .none [] [] (.arith .add (.lit (.int 9223372036854775807)) (.lit (.int 1))) = .error .overflow := by
  decide +kernel

/-- the witness tables of the join defects: t(id, a) = (1,10),(2,NULL),(3,30);  u(k, b) = (10,1),(40,2) -/
def wU : TableDef := { tys := [.int, .int], rows := [[.int 10, .int 1], [.int 40, .int 2]] }

def joinStar (k : JoinKind) (on : Expr) : Select :=
  { distinct := false, from_ := .join k (.table 0) (.table 1) (some on), where_ := none, groupBy := [], aggs := [],
    items := none, orderBy := [], limit := none, offset := none }

/-- under `mergeJoinNullKey` the NULL key of row 2 makes `t JOIN u ON t.a = u.k` empty; the match (1,10)-(10,1) is lost
    (contradicts `join_inner_def`) -/
theorem mergeJoinNullKey_witness :
    evalSelect { mergeJoinNullKey := true } false [wT, wU] (joinStar .inner (.cmp .eq (.col 1) (.col 2))) = .ok [] ∧
    evalSelect .none false [wT, wU] (joinStar .inner (.cmp .eq (.col 1) (.col 2))) = .ok [[.int 1, .int 10, .int 10, .int 1]] := by
  decide +kernel

/-- under `mergeJoinDropsRight` the unmatched right row (40,2) is missing from the RIGHT JOIN
    (contradicts `join_right_def` / `outer_join_preserves`) -/
theorem mergeJoinDropsRight_witness :
    evalSelect { mergeJoinDropsRight := true } false [wT, wU] (joinStar .right (.cmp .eq (.col 1) (.col 2)))
      = .ok [[.int 1, .int 10, .int 10, .int 1]] ∧
    evalSelect .none false [wT, wU] (joinStar .right (.cmp .eq (.col 1) (.col 2)))
      = .ok [[.int 1, .int 10, .int 10, .int 1], [.null, .null, .int 40, .int 2]] := by
  decide +kernel

/-- `ON u.k = t.a` fails under `equiKeysUnoriented`; it is the same condition as `ON t.a = u.k` -/
theorem equiKeysUnoriented_witness :
    evalSelect { equiKeysUnoriented := true } false [wT, wU] (joinStar .inner (.cmp .eq (.col 2) (.col 1))) = .error .eval ∧
    evalSelect .none false [wT, wU] (joinStar .inner (.cmp .eq (.col 2) (.col 1))) = .ok [[.int 1, .int 10, .int 10, .int 1]] := by
  decide +kernel

/-- a RIGHT JOIN with an empty left input fails under `nljEmptyLeftNoPad`; it must return the padded right rows -/
theorem nljEmptyLeftNoPad_witness :
    evalSelect { nljEmptyLeftNoPad := true } false [{ wT with rows := [] }, wU] (joinStar .right (.cmp .lt (.col 1) (.col 2)))
      = .error .eval ∧
    evalSelect .none false [{ wT with rows := [] }, wU] (joinStar .right (.cmp .lt (.col 1) (.col 2)))
      = .ok [[.null, .null, .int 10, .int 1], [.null, .null, .int 40, .int 2]] := by
  decide +kernel

/-! ## The hypotheses used above are satisfiable -/

example : ∀ b ∈ wU.rows, b.length = 2 := by decide
example : ∃ v ∈ [Value.null, .int 3], v ≠ .null := ⟨.int 3, by simp, by simp⟩
example : evalSelect .none false [wT] (idsWhere (.cmp .gt (.col 1) (.lit (.int 5)))) = .ok [[.int 1], [.int 3]] := by decide +kernel
example : deleteRows (predOf .none wT.tys (some (.cmp .gt (.col 1) (.lit (.int 15))))) wT.rows
    = .ok ([[.int 1, .int 10], [.int 2, .null]], 1) := by decide +kernel

section ParserTheorems
open AxVerif.Parser

/-- The binding-power table extracted from the code on this run (by evaluating `infix_binding_power` on every
    operator token and probing the prefix operators and the BETWEEN bounds) is the documented precedence
    OR < AND < NOT < comparison / LIKE / IN / BETWEEN / IS < + - || < * / % < unary sign, left-associative. -/
theorem table_ordered : Generated.parseTable = docTable := by decide

/-- **Round trip with minimal parentheses.** For every printable expression — any depth, any mix of operators,
    negative literals, IS [NOT], [NOT] BETWEEN / IN / LIKE — the Pratt parser running on the binding-power table
    extracted from the code reads the minimal-parentheses rendering under the documented precedence back as the same
    tree and consumes all of it.  (Printable: `- <non-negative number>` is a literal, IN lists are not empty.) -/
theorem parse_printMin (e : PExpr) (h : Printable e = true) :
    parseExpr Generated.parseTable (printMin docTable e) = some e := by
  rw [table_ordered]
  have hc := costM_le_len e
  have := (body_rt e h).stops (Nat.zero_le _) rfl (safe_of_stops0 e [] rfl) rfl
    (g := 32 * (body D e).length + 32) (by omega)
  simp only [List.append_nil, D] at this
  simp only [parseExpr, printMin, this]

/-- Round trip with every operand in parentheses (no side condition except non-empty IN lists) -/
theorem parse_printFull (e : PExpr) (h : ListsOk e = true) :
    parseExpr Generated.parseTable (full e) = some e := by
  rw [table_ordered]
  have hc := cost_le_len e
  have := full_rt e h [] rfl (32 * (full e).length + 32) (by omega)
  simp only [List.append_nil, D] at this
  simp only [parseExpr, this]

/-- **The lexer reads rendered tokens back**: for every list of printable tokens (numbers, strings with any bytes,
    identifiers that start with a letter or `_`, continue with letters, digits, `_` and are not keywords, the keywords
    and operators of the expression grammar) the text "tokens separated by single blanks" is lexed to that list. -/
theorem lex_render_tokens (ts : List Tok) (h : ∀ t ∈ ts, PrintableTok t = true) : lexAll (render ts) = some ts :=
  lex_render ts h

/-- **Text → AST, end to end.** The minimal-parentheses *text* of every printable expression whose identifiers are
    lexable is read back — by the lexer and the Pratt parser on the extracted binding-power table — as the same tree. -/
theorem parse_text_roundtrip (e : PExpr) (hp : Printable e = true) (hi : IdentsOk e = true) :
    (lexAll (render (printMin docTable e))).bind (parseExpr Generated.parseTable) = some e := by
  have hl := lex_render (printMin docTable e) (body_printable e hi)
  rw [hl]
  exact parse_printMin e hp

/-- instances of the minimal-parentheses statement on the classical traps (checked by evaluation) -/
theorem parse_printMin_examples :
    let a := PExpr.ident [97]; let b := PExpr.ident [98]; let c := PExpr.ident [99]
    parseExpr docTable (printMin docTable (.bin .and (.un .not a) b)) = some (.bin .and (.un .not a) b) ∧
    parseExpr docTable (printMin docTable (.un .not (.bin .and a b))) = some (.un .not (.bin .and a b)) ∧
    parseExpr docTable (printMin docTable (.bin .div (.bin .mul a (.un .neg b)) c)) = some (.bin .div (.bin .mul a (.un .neg b)) c) ∧
    parseExpr docTable (printMin docTable (.bin .mul (.bin .plus a b) c)) = some (.bin .mul (.bin .plus a b) c) ∧
    parseExpr docTable (printMin docTable (.bin .minus a (.bin .minus b c))) = some (.bin .minus a (.bin .minus b c)) ∧
    parseExpr docTable (printMin docTable (.bin .and (.between false a (.num 1) (.num 2)) c))
      = some (.bin .and (.between false a (.num 1) (.num 2)) c) ∧
    parseExpr docTable (printMin docTable (.un .not (.inList true a [.num 1, .num (-2)])))
      = some (.un .not (.inList true a [.num 1, .num (-2)])) := by
  refine ⟨rfl, rfl, rfl, rfl, rfl, rfl, rfl⟩

/-- With the shipped power of prefix NOT (3 = AND's own left power) the text `NOT a AND b` is read as
    `NOT (a AND b)`; the documented grammar (which the extracted table equals, `table_ordered`) reads `(NOT a) AND b`. -/
theorem notBindsLooser_witness :
    let a := PExpr.ident [97]; let b := PExpr.ident [98]
    printMin docTable (.bin .and (.un .not a) b) = [.kNot, .ident [97], .kAnd, .ident [98]] ∧
    parseExpr { docTable with prefixNot := 3 } [.kNot, .ident [97], .kAnd, .ident [98]] = some (.un .not (.bin .and a b)) ∧
    parseExpr docTable [.kNot, .ident [97], .kAnd, .ident [98]] = some (.bin .and (.un .not a) b) := by
  refine ⟨rfl, rfl, rfl⟩

/-- With the shipped power of the unary signs (9 = the left power of `*`) the text `a * - b / c` is read as
    `a * (-(b / c))`; the documented grammar reads `(a * (-b)) / c` (different under integer division). -/
theorem unaryBindsLooser_witness :
    let a := PExpr.ident [97]; let b := PExpr.ident [98]; let c := PExpr.ident [99]
    parseExpr { docTable with prefixMinus := 9 } [.ident [97], .star, .minus, .ident [98], .slash, .ident [99]]
      = some (.bin .mul a (.un .neg (.bin .div b c))) ∧
    parseExpr docTable [.ident [97], .star, .minus, .ident [98], .slash, .ident [99]]
      = some (.bin .div (.bin .mul a (.un .neg b)) c) := by
  refine ⟨rfl, rfl⟩

example : IdentsOk (.bin .and (.un .not (.qident [116] [99, 49])) (.ident [95, 120])) = true := by decide +kernel
example : ListsOk (.inList true (.ident [97]) [.num 1, .bin .plus (.num 2) (.ident [98])]) = true := by decide +kernel

end ParserTheorems

end AxVerif.Sql
