/-
  C13 — VACUUM frees space without changing what anyone can see.

  The machine: `Model/Db.lean` (version chains, snapshots as `TransactionCoordinator::snapshot` computes them) extended by
  `Model/Vacuum.lean`: `State.vacuum` (abort all active transactions, drop versions of aborted creators, rows deleted by
  committed deleters, delete marks of rolled-back deleters, versions below the horizon; forget old transactions) and
  `State.quiesce` (the same without the physical part = what reopen does).  A history is a list of `VOp`
  (`op o` = any operation of the C04 machine, `vacuum`, `reopen`); `vrun D V cat ops` = its outputs.
  All property theorems are for `Defects.none`, `VDefects.none` and hold for EVERY history: any number of sessions,
  statements, tables, VACUUMs and reopens at any position.  The proofs rest on `Lemmas/Vacuum.lean`: VACUUM and reopen
  preserve the simulation relation `Rel` between the MVCC machine and the abstract snapshot-isolation machine of C04.
-/
import AxVerif.Lemmas.Vacuum
import AxVerif.Lemmas.VacuumGrowth
namespace AxVerif.Db.C13
open AxVerif.Db

def catT : Catalog := [{ name := "t", cols := [⟨"k", .big, false, false⟩, ⟨"v", .int, false, false⟩] }]

def kEq (n : Int) : Option Pred := some ⟨"k", .eq, .int n⟩

/-- setup of the witnesses: table `t`, warm-up transaction, committed rows (1,10), (2,20) -/
def pre : List VOp :=
  [.op .tick, .op .tick, .op (.auto (.ins "t" [[.int 1, .int 10]])), .op (.auto (.ins "t" [[.int 2, .int 20]]))]

/-! ## witnesses: one concrete history per defect flag on which the property fails -/

/-- DELETE, ROLLBACK, VACUUM: the row is gone -/
theorem vacuumRemovesUncommittedDelete_witness :
    vrun {} { vacuumRemovesUncommittedDelete := true } catT
      (pre ++ [.op (.begin "s1"), .op (.exec "s1" (.del "t" (kEq 1))), .op (.rollback "s1"), .vacuum, .op (.auto (.sel "t" none))])
    ≠ vrun {} {} catT
      (pre ++ [.op (.begin "s1"), .op (.exec "s1" (.del "t" (kEq 1))), .op (.rollback "s1"), .vacuum, .op (.auto (.sel "t" none))]) := by
  decide

/-- a session open across VACUUM goes on answering (the specification ends it) -/
theorem vacuumLeavesSessionsOpen_witness :
    vrun {} { vacuumLeavesSessionsOpen := true } catT
      (pre ++ [.op (.begin "s1"), .vacuum, .op (.exec "s1" (.sel "t" none))])
    ≠ vrun {} {} catT
      (pre ++ [.op (.begin "s1"), .vacuum, .op (.exec "s1" (.sel "t" none))]) := by
  decide

/-- … and when its id is below the horizon, the coordinator has forgotten that it was aborted: the row it inserts after the
    VACUUM is read by a fresh transaction although it never commits -/
theorem cleanupForgetsAborted_witness :
    (vrun {} { vacuumLeavesSessionsOpen := true, cleanupForgetsAborted := true } catT
      (pre ++ [.op (.begin "s1"), .op (.auto (.ins "t" [[.int 3, .int 30]])), .vacuum,
               .op (.exec "s1" (.ins "t" [[.int 5, .int 50]])), .op (.auto (.sel "t" (kEq 5)))])).getLast? =
      some (.out (.stmt (.rows [[.int 5, .int 50]]))) ∧
    (vrun {} { vacuumLeavesSessionsOpen := true } catT
      (pre ++ [.op (.begin "s1"), .op (.auto (.ins "t" [[.int 3, .int 30]])), .vacuum,
               .op (.exec "s1" (.ins "t" [[.int 5, .int 50]])), .op (.auto (.sel "t" (kEq 5)))])).getLast? =
      some (.out (.stmt (.rows []))) := by
  decide

/-- with versions stamped by their updaters (the specification of UPDATE), the shipped row pass — decide by the header's
    creator, cut the chain below the horizon — loses a committed row whose newest version was rolled back -/
theorem vacuumDropsHorizonVersion_witness :
    vrun {} { vacuumDropsHorizonVersion := true } catT
      (pre ++ [.op (.begin "s1"), .op (.exec "s1" (.upd "t" "v" false (.int 77) (kEq 1))), .op (.rollback "s1"), .vacuum,
               .op (.auto (.sel "t" none))])
    ≠ vrun {} {} catT
      (pre ++ [.op (.begin "s1"), .op (.exec "s1" (.upd "t" "v" false (.int 77) (kEq 1))), .op (.rollback "s1"), .vacuum,
               .op (.auto (.sel "t" none))]) := by
  decide

def reached (cat : Catalog) (ops : List VOp) : State := (vfinal Defects.none VDefects.none (VState.init cat) ops).db

/-- **Refinement.**  On every history with VACUUM and reopen at arbitrary places, the MVCC machine with VACUUM's physical
    effect answers every operation exactly as the abstract snapshot-isolation machine, in which a VACUUM does nothing but
    end the open transactions (`Spec.State.quiesce`).  In particular every read issued after a VACUUM — by an autocommit
    statement, by a session opened after it, by a session opened after several more VACUUMs and reopens — returns
    committed-at-its-begin ⊕ its own writes. -/
theorem vacuum_refines_spec (cat : Catalog) (ops : List VOp) :
    vrun Defects.none VDefects.none cat ops = (Spec.vouts (Spec.State.init cat) ops).map VOut.out :=
  (vrunFrom_ok ops _ _ (vinit_rel cat)).1

/-- replaces every VACUUM by "abort every open transaction" (`reopen` = `State.quiesce`: no physical change at all) -/
def noVacuum : VOp → VOp
  | .vacuum => .reopen
  | o => o

theorem spec_vouts_noVacuum : ∀ (ops : List VOp) (α : Spec.State), Spec.vouts α (ops.map noVacuum) = Spec.vouts α ops
  | [], _ => rfl
  | o :: os, α => by
    cases o <;> simp [Spec.vouts, Spec.vstep, noVacuum, spec_vouts_noVacuum os]

/-- **VACUUM changes no answer.**  For every history — whatever happened before the VACUUMs (committed, rolled-back,
    superseded versions, rolled-back deletes, transactions still open), wherever they stand, however many there are, with
    or without reopens — every operation gets the same answer as in the history in which each VACUUM is replaced by the
    mere rollback of the open transactions: all later reads of autocommit statements and of sessions begun after a
    VACUUM, all outcomes of later writes and commits. -/
theorem vacuum_view_preserving (cat : Catalog) (ops : List VOp) :
    vrun Defects.none VDefects.none cat ops = vrun Defects.none VDefects.none cat (ops.map noVacuum) := by
  rw [vacuum_refines_spec, vacuum_refines_spec, spec_vouts_noVacuum]

example : [VOp.op (.begin "s1"), .vacuum, .op (.auto (.sel "t" none)), .reopen].map noVacuum =
    [.op (.begin "s1"), .reopen, .op (.auto (.sel "t" none)), .reopen] := rfl

/-- the same at the level of states: in every reachable state, the snapshot of a transaction that begins right after the
    VACUUM reads from the vacuumed store exactly what a transaction beginning now reads from the present store, for every
    table at once (`view` = all rows of all tables the snapshot selects, with their values) -/
theorem vacuum_preserves_committed_view (cat : Catalog) (ops : List VOp) :
    view Defects.none (((reached cat ops).vacuum Defects.none VDefects.none).freshSnap Defects.none)
        ((reached cat ops).vacuum Defects.none VDefects.none).rows =
      view Defects.none ((reached cat ops).freshSnap Defects.none) (reached cat ops).rows := by
  have hr := (vreach_rel cat ops).1
  exact ((vacuum_rel _ _ hr).core.committed).trans hr.core.committed.symm

/-- … and so does the snapshot of a transaction that begins after a reopen -/
theorem reopen_preserves_committed_view (cat : Catalog) (ops : List VOp) :
    view Defects.none (((reached cat ops).quiesce Defects.none).freshSnap Defects.none)
        ((reached cat ops).quiesce Defects.none).rows =
      view Defects.none ((reached cat ops).freshSnap Defects.none) (reached cat ops).rows := by
  have hr := (vreach_rel cat ops).1
  exact ((quiesce_rel _ _ hr).core.committed).trans hr.core.committed.symm

/-- **Sessions opened after a VACUUM read consistently.**  A session begun after the VACUUM that issues the same query
    twice, with anything in between except its own writes and transaction control — other sessions' writes and commits,
    autocommit statements, further VACUUMs excluded only because they end the session — gets the same rows.
    (This is `C04.repeatable` on the abstract machine, which `vacuum_refines_spec` makes applicable after any VACUUM;
    DESIGN.md lists it as `vacuum_keeps_open_sessions_consistent`.) -/
theorem vacuum_keeps_later_sessions_consistent (cat : Catalog) (pre : List VOp) (mid : List Op) (s t : String) (p : Option Pred)
    (hmid : ∀ op ∈ mid, op.keeps s = true) :
    let ops := pre ++ [.vacuum, .op (.begin s), .op (.exec s (.sel t p))] ++ mid.map VOp.op ++ [.op (.exec s (.sel t p))]
    (vrun Defects.none VDefects.none cat ops)[pre.length + 2]? = (vrun Defects.none VDefects.none cat ops)[pre.length + 3 + mid.length]? := by
  intro ops
  rw [vacuum_refines_spec]
  simp only [List.getElem?_map]
  congr 1
  -- split the history: pre ++ [vacuum] | begin ; read ; mid ; read — the second part is a history of the C04 machine
  have hsplit : ops = (pre ++ [.vacuum]) ++
      ([Op.begin s] ++ Op.exec s (.sel t p) :: (mid ++ [Op.exec s (.sel t p)])).map VOp.op := by
    simp only [ops, List.map_append, List.map_cons, List.map_nil, List.append_assoc, List.cons_append, List.nil_append]
  obtain ⟨o, hrep1, hrep2⟩ :=
    spec_repeatable (Spec.vfinal (Spec.State.init cat) (pre ++ [.vacuum])) [Op.begin s] mid s t p hmid
  have hl : (pre ++ [VOp.vacuum]).length = pre.length + 1 := List.length_append
  rw [hsplit, show pre.length + 2 = (pre ++ [VOp.vacuum]).length + 1 by rw [hl],
    show pre.length + 3 + mid.length = (pre ++ [VOp.vacuum]).length + (1 + 1 + mid.length) by rw [hl]; omega,
    Spec.vouts_append_right, Spec.vouts_append_right, Spec.vouts_op]
  exact hrep1.trans hrep2.symm

theorem reached_append (cat : Catalog) (a b : List VOp) :
    reached cat (a ++ b) = (vfinal Defects.none VDefects.none (vfinal Defects.none VDefects.none (VState.init cat) a) b).db := by
  unfold reached; rw [vfinal_append]

/-- **VACUUM removes only what no later transaction can need.**  `r` is a stored row when VACUUM runs after the history `ops`
    (`vacSnap` = the vacuum transaction's snapshot, horizon = last committed id); `S` is the snapshot of a transaction that
    begins after the VACUUM and after ANY further history `later` (more VACUUMs, reopens, sessions, statements).
    If VACUUM removes the row, `S` selects no version of it.  If VACUUM keeps the row (as `r'`), `S` reads from `r'` exactly
    what it reads from `r`, and the version `S` selects in `r` is still there — it is the head of `r'`: every dropped version
    and every erased delete mark is one `S` does not use. -/
theorem vacuum_removes_only_unneeded (cat : Catalog) (ops later : List VOp) (r : Row) (hr : r ∈ (reached cat ops).rows) :
    let σ := reached cat ops
    let S := (reached cat (ops ++ VOp.vacuum :: later)).freshSnap Defects.none
    (r.vacuum VDefects.none (vacSnap σ) σ.lastCommitted = none → rowVisible Defects.none S r = none) ∧
    (∀ r', r.vacuum VDefects.none (vacSnap σ) σ.lastCommitted = some r' →
      rowVisible Defects.none S r' = rowVisible Defects.none S r ∧
      ∀ v, r.versions.find? (fun v => S.sees v.creator) = some v → r'.versions.head? = some v) := by
  intro σ S
  have hrel := vreach_rel cat ops
  have hadm : ∀ u ∈ r.owners, S.sees u = (vacSnap σ).cb u ∧ (vacSnap σ).aborted.contains u = !(vacSnap σ).cb u := by
    intro u hu
    have := later_snapshot_admissible _ _ hrel later u (owners_lt σ 0 hrel.1.core.sinv r hr u hu)
    simp only [S, reached_append]
    exact this
  -- `toARow` only adds the row id and the table, which VACUUM keeps
  have hview := congrArg (Option.map ARow.vals)
    (Row.vacuum_view (vacSnap σ) S σ.lastCommitted r (fun u hu => (hadm u hu).1) (fun u hu => (hadm u hu).2))
  refine ⟨?_, ?_⟩
  · intro hnone
    rw [hnone] at hview
    simpa only [Row.toARow, Option.bind_none, Option.map_none, Option.map_map, Function.comp_def, Option.map_id',
      eq_comm] using hview
  · intro r' hsome
    rw [hsome] at hview
    refine ⟨?_, fun v hsel => Row.vacuum_keeps_selected (vacSnap σ) S σ.lastCommitted r r' (fun u hu => (hadm u hu).1)
      (fun u hu => (hadm u hu).2) hsome v hsel⟩
    simpa only [Row.toARow, Option.bind_some, Option.map_map, Function.comp_def, Option.map_id'] using hview

/-- what VACUUM leaves of a row: no delete mark, only versions of committed transactions that were stored before, and at most
    ONE version older than the horizon (`belowCount`): nothing behind the newest pre-horizon version survives -/
theorem no_chain_survives (cat : Catalog) (ops : List VOp) (r r' : Row) (hr : r ∈ (reached cat ops).rows)
    (hv : r.vacuum VDefects.none (vacSnap (reached cat ops)) (reached cat ops).lastCommitted = some r') :
    r'.deleters = [] ∧ r'.versions ≠ [] ∧
    (∀ w ∈ r'.versions, (reached cat ops).isCommitted w.creator ∧ w.creator ≤ (reached cat ops).lastCommitted) ∧
    r'.versions.Sublist r.versions ∧ belowCount (reached cat ops).lastCommitted r'.versions ≤ 1 :=
  vacuum_row_shape _ _ (vreach_rel cat ops).1 r r' hr hv

/-- **The general bound**, for arbitrary work before the VACUUM: what is stored afterwards is at least one version per surviving
    row and at most one per row plus the versions written by the single transaction that committed last (`stampedBy`).  Nothing
    older is kept, so chains cannot grow from one VACUUM to the next. -/
theorem size_after_vacuum_le (cat : Catalog) (ops : List VOp) :
    ((reached cat ops).vacuum Defects.none VDefects.none).rows.length ≤ ((reached cat ops).vacuum Defects.none VDefects.none).size ∧
    ((reached cat ops).vacuum Defects.none VDefects.none).size ≤
      ((reached cat ops).vacuum Defects.none VDefects.none).rows.length +
        stampedBy (reached cat ops).lastCommitted (reached cat ops).rows := by
  unfold State.size
  rw [vacuum_rows]
  exact sizeRows_vacuum_le _ _ (vreach_rel cat ops).1 _ (fun r hr => hr)

/-- **VACUUM ends the open sessions.**  Right after a VACUUM, in the specification, no session is open: whatever session name
    is used next — for a statement, COMMIT or ROLLBACK — the answer is `noSession`.  (That the writes of the sessions that
    were open are not seen by anyone afterwards is not said here; it is part of `vacuum_refines_spec`, where the VACUUM is the
    abstract machine's `quiesce`, which forgets every open transaction.)  A session that was open across a VACUUM gets
    errors, never a mix of old and new data. -/
theorem vacuum_ends_open_sessions (cat : Catalog) (ops : List VOp) (s : String) (st : Stmt) :
    let τ := vfinal Defects.none VDefects.none (VState.init cat) (ops ++ [.vacuum])
    (vstep Defects.none VDefects.none τ (.op (.exec s st))).2 = .out .noSession ∧
    (vstep Defects.none VDefects.none τ (.op (.commit s))).2 = .out .noSession ∧
    (vstep Defects.none VDefects.none τ (.op (.rollback s))).2 = .out .noSession ∧ τ.db.sessions = [] := by
  intro τ
  have hk : τ.killed = [] := by
    simp only [τ, vfinal_append]
    exact (vstep_ok _ _ (vreach_rel cat ops) .vacuum).2.2
  have hs : τ.db.sessions = [] := by
    simp only [τ, vfinal_append]
    exact vacuum_sessions _
  have hl : lookup s τ.db.sessions = none := by rw [hs]; rfl
  refine ⟨?_, ?_, ?_, hs⟩
  all_goals rw [vstep_op hk]; simp only [step, stepCore, hl]

/-- **VACUUM frees space**: it never stores more than before — in any state, for any defect setting -/
theorem vacuum_size_le (D : Defects) (V : VDefects) (σ : State) : (σ.vacuum D V).size ≤ σ.size := by
  unfold State.size State.vacuum State.vacuumWith
  rw [commitTxn_rows]
  exact sizeRows_vacuumRows_le V _ _ σ.rows

/-- the design's statement: a second VACUUM changes neither what is read nor the size -/
def vacuum_idempotent_statement : Prop :=
  ∀ (cat : Catalog) (ops : List VOp),
    let σ := reached cat ops
    let σ1 := σ.vacuum Defects.none VDefects.none
    let σ2 := σ1.vacuum Defects.none VDefects.none
    view Defects.none (σ2.freshSnap Defects.none) σ2.rows = view Defects.none (σ1.freshSnap Defects.none) σ1.rows ∧
    σ2.size = σ1.size

/-- **Idempotence (proved part).**  After any history: a second VACUUM changes nothing a later transaction reads, never
    stores more, drops no row and leaves exactly one version per row and no delete mark; from the second VACUUM on the size
    does not change any more. -/
theorem vacuum_idempotent_partial (cat : Catalog) (ops : List VOp) :
    let σ := reached cat ops
    let σ1 := σ.vacuum Defects.none VDefects.none
    let σ2 := σ1.vacuum Defects.none VDefects.none
    let σ3 := σ2.vacuum Defects.none VDefects.none
    view Defects.none (σ2.freshSnap Defects.none) σ2.rows = view Defects.none (σ1.freshSnap Defects.none) σ1.rows ∧
    σ2.size ≤ σ1.size ∧ σ2.rows.length = σ1.rows.length ∧ σ2.size = σ2.rows.length ∧ σ3.size = σ2.size := by
  intro σ σ1 σ2 σ3
  have hr := (vreach_rel cat ops).1
  have hr1 := vacuum_rel σ _ hr
  have hr2 := vacuum_rel σ1 _ hr1
  have hs2 : σ2.size = σ2.rows.length := size_vacuum_twice σ _ hr
  have hs3 : σ3.size = σ3.rows.length := size_vacuum_twice σ1 _ hr1
  refine ⟨?_, vacuum_size_le _ _ σ1, vacuum_twice_rows_length σ _ hr, hs2, ?_⟩
  · exact (hr2.core.committed).trans hr1.core.committed.symm
  · rw [hs3, hs2]; exact vacuum_twice_rows_length σ1 _ hr1

/-- the size part of the design's statement is false of the code-mirroring model: `vaccum_with` keeps the deltas whose `xmin`
    equals the horizon and the newest version older than it, so a transaction that updated a row twice leaves three versions
    after the first VACUUM, one after the second -/
theorem vacuum_size_not_idempotent_witness :
    let σ := reached catT (pre ++ [.op (.batch [.upd "t" "v" true (.int 1) none, .upd "t" "v" true (.int 1) none])])
    (σ.vacuum {} {}).size = 6 ∧ ((σ.vacuum {} {}).vacuum {} {}).size = 2 := by
  decide

def cycle1 (τ : VState) (st : Stmt) : VState := vfinal Defects.none VDefects.none τ [.op (.auto st), .vacuum]

def cycles : VState → List Stmt → VState
  | τ, [] => τ
  | τ, st :: sts => cycles (cycle1 τ st) sts

/-- the design's statement, for arbitrary work between two VACUUMs: the size after each VACUUM is bounded by a function of the
    number of rows alone -/
def bounded_growth_statement : Prop :=
  ∃ c : Nat → Nat, ∀ (cat : Catalog) (ops : List VOp),
    ((reached cat ops).vacuum Defects.none VDefects.none).size ≤ c ((reached cat ops).vacuum Defects.none VDefects.none).rows.length

theorem cycle1_db (τ : VState) (st : Stmt) :
    (cycle1 τ st).db = ((step D0 τ.db (.auto st)).1).vacuum D0 V0 := by
  unfold cycle1
  simp only [vfinal, vstep]

/-- what holds after every cycle: the state is reachable, no stored stamp is as new as the horizon (the vacuum transaction
    wrote nothing), and every row holds one or two versions -/
def Settled (τ : VState) : Prop :=
  (∃ α, VRel τ α) ∧ (∀ r ∈ τ.db.rows, ∀ u ∈ r.owners, u < τ.db.lastCommitted) ∧
    τ.db.rows.length ≤ τ.db.size ∧ τ.db.size ≤ 2 * τ.db.rows.length

/-- one cycle from a vacuumed state: the statement's transaction is the only one that can stamp at the new horizon, and it
    puts at most a new head on each chain (`auto_tail`), so the VACUUM leaves the head and at most one older version -/
theorem cycle_step (τ : VState) (α : Spec.State) (h : VRel τ α)
    (hK : ∀ r ∈ τ.db.rows, ∀ u ∈ r.owners, u < τ.db.lastCommitted) (st : Stmt) : Settled (cycle1 τ st) := by
  have h1 := (vstep_ok τ α h (.op (.auto st))).2
  have hrel1 : Rel (step D0 τ.db (.auto st)).1 (Spec.vstep α (.op (.auto st))).1 := h1.1
  refine ⟨⟨_, (vstep_ok _ _ h1 .vacuum).2⟩, ?_, ?_⟩
  · rw [cycle1_db]; exact vacuum_no_stamp_at_horizon _ _ hrel1
  · rw [cycle1_db]
    apply size_vacuum_le_two_rows _ _ hrel1
    have htail := auto_tail τ.db h.1.core.sinv.sorted st (fun u => u < τ.db.lastCommitted ∧ u < τ.db.txns.length)
      (fun r hr w hw => ⟨hK r hr _ (creator_mem_owners hw), owners_lt τ.db 0 h.1.core.sinv r hr _ (creator_mem_owners hw)⟩)
    intro r hr w hw
    obtain ⟨g1, g2⟩ := htail r hr w hw
    -- the new horizon is the old one, above every stored stamp, or the statement's transaction, a new id
    rcases (auto_cases τ.db st).2 with e | e
    · rw [e]; omega
    · rw [e]; omega

theorem cycles_invariant (sts : List Stmt) : ∀ (τ : VState), Settled τ → Settled (cycles τ sts) := by
  induction sts with
  | nil => exact fun _ h => h
  | cons st sts ih =>
    intro τ h
    obtain ⟨⟨α, hr⟩, hK, _⟩ := h
    rw [cycles]
    exact ih _ (cycle_step τ α hr hK st)

/-- **Bounded growth.**  Start anywhere (any history `ops`), run VACUUM once, then any number of cycles
    "one autocommit statement (an UPDATE of every row, or any other statement, failing ones included); VACUUM": after every
    cycle the store holds, per row, the head version and at most the one version older than the horizon that `vaccum_with`
    keeps, and no delete mark — `rows ≤ size ≤ 2 · rows`, however many cycles have run.  Version chains do not grow. -/
theorem bounded_growth (cat : Catalog) (ops : List VOp) (sts : List Stmt) (hne : sts ≠ []) :
    (cycles (vfinal Defects.none VDefects.none (VState.init cat) (ops ++ [.vacuum])) sts).db.rows.length ≤
      (cycles (vfinal Defects.none VDefects.none (VState.init cat) (ops ++ [.vacuum])) sts).db.size ∧
    (cycles (vfinal Defects.none VDefects.none (VState.init cat) (ops ++ [.vacuum])) sts).db.size ≤
      2 * (cycles (vfinal Defects.none VDefects.none (VState.init cat) (ops ++ [.vacuum])) sts).db.rows.length := by
  cases sts with
  | nil => exact (hne rfl).elim
  | cons st rest =>
    have hrel0 := vreach_rel cat ops
    rw [cycles, vfinal_append]
    -- the state after the first VACUUM need not be settled (it may keep a chain); the state after the first cycle is
    exact (cycles_invariant rest _ (cycle_step _ _ (vstep_ok _ _ hrel0 .vacuum).2
      (vacuum_no_stamp_at_horizon _ _ hrel0.1) st)).2.2

example : cycles (VState.init catT) [.upd "t" "v" true (.int 1) none] =
    vfinal Defects.none VDefects.none (VState.init catT) [.op (.auto (.upd "t" "v" true (.int 1) none)), .vacuum] := rfl

/-- **Forgetting is unobservable after the specification's VACUUM.**  `cleanup_old_transactions` forgets aborted transactions
    below the horizon, after which their stamps are read as committed (`forgetAux`, flag `cleanupForgetsAborted`).  After the
    specification's row pass no stored row carries a stamp of an aborted transaction, so whichever of them are relabelled
    (any bound `h`), a transaction beginning after the VACUUM reads the same. -/
theorem forget_aborted_unobservable (cat : Catalog) (ops : List VOp) (h : Nat) :
    let σv := (reached cat ops).vacuum Defects.none VDefects.none
    view Defects.none (State.freshSnap Defects.none { σv with txns := forgetAux h σv.txns 0 }) σv.rows =
      view Defects.none (σv.freshSnap Defects.none) σv.rows := by
  intro σv
  have hr := (vreach_rel cat ops).1
  have hr1 := vacuum_rel _ _ hr
  apply filterMap_congr_mem
  intro r' hr'
  apply toARow_congr
  intro u hu
  -- every stamp VACUUM leaves is a version's, of a transaction committed before the VACUUM and hence after it
  obtain ⟨r, hrm, hv⟩ := mem_vacuum_rows.1 hr'
  obtain ⟨s1, _, s3, _⟩ := vacuum_row_shape _ _ hr r r' hrm hv
  obtain ⟨w, hw, rfl⟩ : ∃ w ∈ r'.versions, w.creator = u := by
    rcases List.mem_append.1 hu with hu | hu
    · exact List.mem_map.1 hu
    · rw [s1] at hu; cases hu
  obtain ⟨t', g1, hcomm⟩ : σv.isCommitted w.creator :=
    (frame_finished (reached cat ops) (vacuumRows V0) (vacuumIndex V0)).committed (s3 w hw).1
  -- forgetting leaves a committed entry alone, and a snapshot taken now sees it whatever the other entries say
  have hfg : (forgetAux h σv.txns 0)[w.creator]? = some t' := by
    rw [getElem?_forgetAux, g1, Option.map_some, if_neg (fun hc => by rw [hcomm] at hc; cases hc.2)]
  have hle : w.creator ≤ σv.lastCommitted := hr1.core.cinv.lc_max _ t' g1 hcomm
  exact (fresh_sees_committed (σ := { σv with txns := forgetAux h σv.txns 0 }) hfg hcomm hle).trans
    (fresh_sees_committed g1 hcomm hle).symm

/-! ## the hypotheses are satisfiable, the statements are not vacuous -/

/-- a state in which VACUUM has something to do: row 1 was updated (2 versions), row 2 carries the mark of a rolled-back
    DELETE, a rolled-back INSERT left a third row -/
def busy : List VOp :=
  pre ++ [.op (.auto (.upd "t" "v" true (.int 1) (kEq 1))),
          .op (.begin "s1"), .op (.exec "s1" (.del "t" (kEq 2))), .op (.exec "s1" (.ins "t" [[.int 3, .int 30]])), .op (.rollback "s1")]

/-- … VACUUM removes the rolled-back row and the stale delete mark (size 5 → 3, 3 rows → 2; the superseded version of row 1 is the
    newest one below the horizon and stays until the next VACUUM) and a transaction beginning afterwards reads the same two rows
    as one beginning before -/
example : (reached catT busy).size = 5 ∧ ((reached catT busy).vacuum {} {}).size = 3 ∧
    (((reached catT busy).vacuum {} {}).vacuum {} {}).size = 2 ∧
    (reached catT busy).rows.length = 3 ∧ ((reached catT busy).vacuum {} {}).rows.length = 2 ∧
    (view {} (((reached catT busy).vacuum {} {}).freshSnap {}) ((reached catT busy).vacuum {} {}).rows).map (·.vals) =
      [[.int 1, .int 11], [.int 2, .int 20]] := by decide

/-- an instance of `bounded_growth` (three UPDATE-all cycles) and of the hypothesis of `vacuum_keeps_later_sessions_consistent` -/
example : (cycles (vfinal {} {} (VState.init catT) (busy ++ [.vacuum]))
    [.upd "t" "v" true (.int 1) none, .upd "t" "v" true (.int 1) none, .upd "t" "v" true (.int 1) none]).db.size = 4 := by decide

example : ∀ op ∈ [Op.auto (.upd "t" "v" true (.int 1) none), .begin "s2", .exec "s2" (.del "t" none), .commit "s2"],
    op.keeps "s1" = true := by decide

end AxVerif.Db.C13
