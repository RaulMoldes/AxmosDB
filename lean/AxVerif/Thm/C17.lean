/-
  C17 — The write-ahead log returns exactly what was appended.

  `run P {} (init P) ops` is the step-by-step model of io/wal.rs with all defects off (= the code with the `fix:`
  commits that the C17 entries of /verif/known_findings.json name); `specRun P Spec.init ops` is the abstract specification: the list of
  accepted records since the last truncation and the length of its forced prefix.  The theorems hold for an
  arbitrary `Params` satisfying `Params.Wf`; `walParams_wf` instantiates them with the constants evaluated from the
  code on this run.  `Params.Wf`, the helper lemmas and the invariant are in Lemmas/Wal.lean.
-/
import AxVerif.Lemmas.Wal
import AxVerif.Generated.Wal
namespace AxVerif.Wal
open AxVerif

theorem walParams_wf : Generated.walParams.Wf := by decide

/-- `OwnedRecord::compute_padded_size` as evaluated from the code agrees with the model's formula -/
theorem walPaddedSizes_agree :
    (List.range 16).map (paddedSize Generated.walParams) = Generated.walPaddedSizes := by decide

/-- the block size in use is `WAL_BLOCK_SIZE` rounded up to a multiple of the file-system block size, so at least it -/
theorem walBlockSize_ge : Generated.walBlockSizeConst ≤ Generated.walParams.blockSize := by decide

/-- For every sequence of push / force / truncate / reopen / crash / read (read-ahead ≥ 1) the log
    answers exactly as the specification does: same LSN or same rejection for every push, and every read returns
    exactly the records appended since the last truncation that a force has covered, in order. -/
theorem run_refines_spec (P : Params) (hw : P.Wf) (ops : List Op) (hk : ReadAheadPos ops) :
    (run P {} (init P) ops).2 = (specRun P Spec.init ops).2 := by
  exact (run_refines P hw.recHdr_pos hw.hdr_le hw.freshTotal_eq ops (inv_init P hw.freshTotal_eq) hk).1

/-- Reading after any sequence of operations, with any read-ahead `k ≥ 1`, returns exactly the forced prefix of
    what was appended since the last truncation — same order, same LSNs, tids, kinds and payloads. -/
theorem read_eq_forced (P : Params) (hw : P.Wf) (ops : List Op) (hk : ReadAheadPos ops) (k : Nat) (hk0 : 0 < k) :
    read P {} (run P {} (init P) ops).1 k =
      .ok ((specRun P Spec.init ops).1.appended.take (specRun P Spec.init ops).1.forced) := by
  exact read_inv P hw.recHdr_pos
    (run_refines P hw.recHdr_pos hw.hdr_le hw.freshTotal_eq ops (inv_init P hw.freshTotal_eq) hk).2 k hk0

/-- Right after a force or a clean close/reopen everything appended since the last truncation is read back. -/
theorem read_after_force_or_reopen (P : Params) (hw : P.Wf) (ops : List Op) (op : Op) (hop : op = .force ∨ op = .reopen)
    (hk : ReadAheadPos (ops ++ [op])) (k : Nat) (hk0 : 0 < k) :
    read P {} (run P {} (init P) (ops ++ [op])).1 k = .ok (specRun P Spec.init (ops ++ [op])).1.appended := by
  rw [read_eq_forced P hw _ hk k hk0, specRun_append]
  rcases hop with rfl | rfl <;> exact congrArg Except.ok (List.take_length ..)

/-- The LSNs of the records read back increase strictly. -/
theorem lsn_strictly_increasing (P : Params) (hw : P.Wf) (ops : List Op) (hk : ReadAheadPos ops) (k : Nat) (hk0 : 0 < k) :
    ∃ l, read P {} (run P {} (init P) ops).1 k = .ok l ∧ (l.map (·.lsn)).Pairwise (· < ·) := by
  -- what is read is what a crash would leave, and that satisfies the specification's invariant too
  exact ⟨_, read_eq_forced P hw ops hk k hk0, (specStep_inv P _ .crash (specRun_inv P ops Spec.init specInv_init)).inc⟩

/-- Nothing is invented: every record read back is a record that was handed to `push` (with the LSN the log gave it). -/
theorem never_invented (P : Params) (hw : P.Wf) (ops : List Op) (hk : ReadAheadPos ops) (k : Nat) (hk0 : 0 < k) :
    ∃ l, read P {} (run P {} (init P) ops).1 k = .ok l ∧ ∀ r ∈ l, PushedIn ops r := by
  refine ⟨_, read_eq_forced P hw ops hk k hk0, ?_⟩
  intro r hr
  exact (specRun_pushed P ops Spec.init r (List.mem_of_mem_take hr)).resolve_left List.not_mem_nil

/-- A record larger than `max_record_size` is rejected and the log is left exactly as it was — whatever the
    defect flags. -/
theorem push_too_large (P : Params) (D : Defects) (s : State) (r : Rec) (ha : s.alive = true)
    (h : recSize P r > P.maxRecord) : step P D s (.push r) = (s, .err .tooLarge) := by
  rw [step, if_neg (by rw [ha]; decide)]
  exact if_pos h

/-- An accepted record has payload lengths that fit the u16 fields of the record header (so nothing is truncated
    by `as u16`), and a total size that fits the u32 field. -/
theorem push_ok_lengths_fit (P : Params) (hw : P.Wf) (D : Defects) (s : State) (r : Rec) (n : Nat)
    (h : (step P D s (.push r)).2 = .lsn n) :
    r.undo.length < 2^16 ∧ r.redo.length < 2^16 ∧ recSize P r < 2^32 := by
  -- a dead log answers `dead`, a too large record `tooLarge`: an LSN comes back only for a record within `maxRecord`
  have hsz : recSize P r ≤ P.maxRecord := Nat.le_of_not_lt fun hc => by
    by_cases ha : s.alive = true
    · rw [push_too_large P D s r ha hc] at h; cases h
    · rw [step, if_pos (by rw [Bool.not_eq_true] at ha; rw [ha]; rfl)] at h; cases h
  have hp := paddedSize_ge P hw.align_pos (r.undo.length + r.redo.length)
  have h1 : recSize P r ≤ 65536 :=
    Nat.le_trans hsz (hw.maxRecord_eq ▸ Nat.le_trans (Nat.sub_le _ _) hw.blockSize_le)
  have h2 : 80 + (r.undo.length + r.redo.length) ≤ recSize P r := by
    rw [recSize, hw.recHdr_eq]; exact Nat.add_le_add_left hp _
  omega

/-- Record image round trip: what `push` copies into a block decodes, in front of anything, to the same
    record — every header field and both payloads, empty payloads and every padding length included. -/
theorem decode_encode_record (P : Params) (hw : P.Wf) (r : Rec) (hf : RecFits P r) (rest : Bytes) :
    decodeRecord (encodeRecord P r ++ rest) = some (r, rest) := by
  exact decode_encode P hw.recHdr_eq hw.align_pos r hf rest

/-- The image of a record is exactly `total_size` bytes. -/
theorem encodeRecord_length (P : Params) (hw : P.Wf) (r : Rec) : (encodeRecord P r).length = recSize P r := by
  exact encodeRecord_length' P hw.recHdr_eq hw.align_pos r

/-- Block data area round trip: walking the byte image of a block's data area the way the reader does (decode
    at the offset, advance by `total_size`, stop at `used_bytes`) yields exactly the block's records — which is
    also what the abstract walk `recsOf` of the state machine yields; whatever follows the used part is ignored. -/
theorem decode_encode_block_data (P : Params) (hw : P.Wf) (b : Block) (hb : BlockOk P b)
    (hf : ∀ r ∈ b.recs, RecFits P r) (tail : Bytes) :
    decodeRecs b.recs.length b.used 0 (encodeRecs P b.recs ++ tail) = some b.recs ∧ recsOf P b = b.recs := by
  refine ⟨?_, recsOf_ok P hw.recHdr_pos b hb⟩
  have := decodeRecs_encodeRecs P hw.recHdr_eq hw.align_pos b.recs hf 0 tail
  rwa [Nat.zero_add, ← hb] at this

/-! ### the hypotheses are satisfiable -/

def exRec (tid : Nat) (undo redo : Bytes) : Rec :=
  { lsn := 0, tid := tid, prev := some 3, oid := some 7, rowid := none, kind := 6, undo := undo, redo := redo }

example : Generated.walParams.Wf := walParams_wf
example : ReadAheadPos [.push (exRec 1 [1, 2, 3] []), .force, .read 1, .reopen, .push (exRec 2 [] [9]), .crash, .read 4,
    .truncate, .read 2] := by decide
example : RecFits Generated.walParams (exRec 5 [1, 2, 3] [4, 5]) := by decide

/-! ### the five defects of the shipped code: with the flag on, the property fails

  Witnesses on a tiny block size (the model is parametric): block zero takes three empty records, a numbered block four. -/

def tinyP : Params :=
  { blockSize := 512, blockHdr := 64, zeroHdr := 128, recHdr := 80, align := 8,
    maxRecord := 448, freshZeroAvail := 256, freshBlockAvail := 384, freshTotalBlocks := 1 }

example : tinyP.Wf := by decide

def e (tid : Nat) : Rec :=
  { lsn := 0, tid := tid, prev := none, oid := none, rowid := none, kind := 0, undo := [], redo := [] }

def Refines (P : Params) (D : Defects) (ops : List Op) : Prop :=
  (run P D (init P) ops).2 = (specRun P Spec.init ops).2

instance (P : Params) (D : Defects) (ops : List Op) : Decidable (Refines P D ops) := by unfold Refines; infer_instance

/-- `last_lsn()` from block zero's block header: once block zero is full every record gets the same LSN. -/
theorem lsnFromBlockZero_witness :
    ¬ Refines tinyP { lsnFromBlockZero := true }
      [.push (e 1), .push (e 2), .push (e 3), .push (e 4), .push (e 5), .force, .read 1] := by decide

/-- the shipped `perform_flush`: the second force after a spill overwrites block 1 — a forced record is lost. -/
theorem flushOverwrites_witness :
    ¬ Refines tinyP { flushOverwritesBlockOne := true }
      [.push (e 1), .push (e 2), .push (e 3), .push (e 4), .force, .push (e 5), .push (e 6), .push (e 7), .push (e 8),
       .push (e 9), .force, .read 1] := by decide

/-- same defect: a force with nothing new resets `total_blocks` and the numbered blocks disappear. -/
theorem flushOverwrites_witness2 :
    ¬ Refines tinyP { flushOverwritesBlockOne := true }
      [.push (e 1), .push (e 2), .push (e 3), .push (e 4), .force, .force, .read 1] := by decide

/-- the reader trusting the in-memory `total_blocks`: a block allocated but not yet forced makes it read past
    the end of the file. -/
theorem readerHeader_witness :
    ¬ Refines tinyP { readerTrustsMemoryHeader := true }
      [.push (e 1), .push (e 2), .push (e 3), .force, .push (e 4), .read 1] := by decide

/-- after reopen a small record goes back into block zero although a numbered block exists: read back out of order. -/
theorem reopenReusesBlockZero_witness :
    ¬ Refines tinyP { reopenReusesBlockZero := true }
      [.push (e 1), .push (e 2), .push { e 3 with undo := List.replicate 100 0 }, .force, .reopen, .push (e 4), .force,
       .read 1] := by decide

/-- a zero-length file (created or truncated, not yet forced) is an error for the reader and for `open`. -/
theorem shortFileIsError_witness :
    ¬ Refines tinyP { shortFileIsError := true } [.read 1] ∧
    ¬ Refines tinyP { shortFileIsError := true } [.push (e 1), .force, .truncate, .crash, .push (e 2), .force, .read 1] := by
  decide

end AxVerif.Wal
