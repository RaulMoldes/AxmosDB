/-
  C10 — Each B+tree is a correct ordered map with sound structure.

  The rebalancer of tree/bplustree.rs is validated, not verified: after every operation the real page graph is dumped
  and judged by `checkTree`. The theorems below say what an accepted dump *proves* about the real tree it was taken
  from — for all keys, not only the probed ones — and that the spec map the dumps are compared with is an ordered map.
-/
import AxVerif.Lemmas.BTree
import AxVerif.Lemmas.Balance
import AxVerif.Lemmas.Slotted
namespace AxVerif.C10
open AxVerif.BTree

def Sorted (l : List (Nat × Val)) : Prop := (keysOf l).Pairwise (· < ·)

def UniformDepth (t : T) : Prop := ∃ h, ∀ x ∈ t.leafDepths 0, x = h

def RoutesCorrectly : T → Prop
  | .leaf _ _ => True
  | .last _ r => RoutesCorrectly r
  | .cons _ ch s rest =>
    (∀ e ∈ ch.toList, e.1 < s) ∧ (∀ e ∈ rest.toList, s ≤ e.1) ∧ RoutesCorrectly ch ∧ RoutesCorrectly rest

def LeavesOrdered (t : T) : Prop := ∀ p ∈ t.leafList, (keysOf p.2).Pairwise (· < ·)

def Linked (d : Dump) : Nat → List Nat → Prop
  | _, [] => True
  | p, l :: ls => (∃ pg, d.page l = some pg ∧ pg.prev = p ∧ pg.next = ls.headD 0) ∧ Linked d l ls

def LevelsLinked (d : Dump) (t : T) : Prop := ∀ n, n ≤ t.height.getD 0 → Linked d 0 (t.level n)

theorem chain_linked {d : Dump} {l : List Nat} {p : Nat} (h : chainOk d p l = true) : Linked d p l := by
  fun_induction chainOk d p l with
  | case1 p => trivial
  | case2 p x xs pg hpg ih =>
    rw [Bool.and_eq_true, Bool.and_eq_true, beq_iff_eq, beq_iff_eq] at h
    exact ⟨⟨pg, hpg, h.1.1, h.1.2⟩, ih h.2⟩
  | case3 p x xs hnone => cases h

theorem routes_of_bounded {t : T} : ∀ {lo hi : Option Nat}, t.bounded lo hi = true → RoutesCorrectly t := by
  induction t with
  | leaf id cells => intro _ _ _; trivial
  | last id r ih => intro lo hi h; exact ih h
  | cons id ch s rest ihc ihr =>
    intro lo hi h
    obtain ⟨-, -, hch, hrest⟩ := bounded_cons h
    exact ⟨fun e he => inHi_of ((ordered_of_bounded hch).keys e.1 (mem_keysOf he)).2 s rfl,
      fun e he => inLo_of ((ordered_of_bounded hrest).keys e.1 (mem_keysOf he)).1 s rfl, ihc hch, ihr hrest⟩

theorem leavesOrdered_of_bounded {t : T} {lo hi : Option Nat} (h : t.bounded lo hi = true) : LeavesOrdered t := by
  intro p hp
  have hs := (ordered_of_bounded h).sorted
  rw [toList_eq_flatten] at hs
  exact hs.sublist ((List.sublist_flatten_of_mem (List.mem_map_of_mem hp)).map _)

theorem leaf_ids_mem (t : T) : ∀ p ∈ t.leafList, p.1 ∈ t.ids := leafList_ids t

/-- **Soundness of the checker.** If `checkTree` accepts a dump then the page graph below the root is a tree `t`
    (no page reached twice, no cycle), and on that graph: the in-order contents are strictly sorted; the code's forward
    iterator (left-most descent, then `next` links) returns exactly the in-order contents; the code's search (linear
    child routing, binary search in the leaf) returns, for **every** key, what the in-order contents hold; all leaves are
    at one depth; every separator routes correctly; every leaf page is internally ordered; the pages of every level are
    doubly linked in key order. -/
theorem checkTree_sound (d : Dump) (h : checkTree d = true) :
    ∃ t, treeOf d = some t ∧ toList d = t.toList ∧
      Sorted (toList d) ∧
      leafScan d = toList d ∧
      (∀ k, lookup d k = alookup k (toList d)) ∧
      UniformDepth t ∧ RoutesCorrectly t ∧ LeavesOrdered t ∧ t.ids.Nodup ∧ LevelsLinked d t := by
  obtain ⟨t, ha⟩ := checkTree_accepts h
  refine ⟨t, ha.tree, ha.list, ha.sorted, ha.scan, ha.lookup, ha.uniformDepth, routes_of_bounded ha.check.bounded,
    leavesOrdered_of_bounded ha.check.bounded, distinct_nodup ha.check.distinct, fun n hn => ?_⟩
  have hlevels := ha.check.levels
  simp only [levelsLinked, List.all_eq_true, List.mem_range] at hlevels
  exact chain_linked (hlevels n (Nat.lt_succ_of_le hn))

/-- **Backward iteration.** On an accepted dump the code's backward iterator (right-most descent, cells from last to
    first, `prev` links; it panics on a leaf without cells) does not fail and returns the contents in descending order. -/
theorem checkTree_sound_backward (d : Dump) (h : checkTree d = true) :
    leafScanBack d = some (toList d).reverse := by
  obtain ⟨t, ha⟩ := checkTree_accepts h
  have hlist := ha.list
  -- the general path: all leaves non-empty
  have general : (∀ e ∈ t.leafList, e.2 ≠ []) →
      (match rightmost d d.fuel d.root with
        | none => none
        | some l => scanBackFrom d d.fuel l) = some (toList d).reverse := by
    intro hall
    have hsb := scanBack_links d t.leafList 0 (d.fuel - t.leafList.length) ha.chain hall
    rw [Nat.add_sub_cancel' (Nat.le_of_lt ha.check.fuel), scanBackFrom_zero] at hsb
    rw [ha.reads.rightmost, hlist, toList_eq_flatten]
    exact hsb.trans (congrArg some (List.append_nil _))
  -- what page is the root?
  unfold leafScanBack
  rcases extract_page ha.tree with ⟨pr, nx, cells, hp, rfl⟩ | ⟨⟨pr, nx, right, cells, hp⟩, hnl⟩
  · rw [hp]
    cases cells with
    | nil => rw [hlist]; rfl
    | cons c cs =>
      refine general fun e he => ?_
      cases List.mem_singleton.mp he
      exact List.cons_ne_nil _ _
  · rw [hp]
    refine general fun e he hempty => ?_
    have hall : t.leafList.all (fun p => !p.2.isEmpty) = true := by
      cases t with
      | leaf i c => exact absurd rfl (hnl i c)
      | last id r => exact ha.check.noEmptyLeaf
      | cons id ch s rest => exact ha.check.noEmptyLeaf
    have := List.all_eq_true.mp hall e he
    rw [hempty] at this
    cases this

/-- The hypothesis of `checkTree_sound` is satisfiable by a non-trivial graph: a root with two leaves. -/
def exampleDump : Dump :=
  { root := 1, fuel := 4,
    page := fun i =>
      if i = 1 then some (.interior 0 0 3 [{ left := 2, key := 10 }])
      else if i = 2 then some (.leaf 0 3 [{ key := 3, val := (8, 1) }, { key := 7, val := (0, 0) }])
      else if i = 3 then some (.leaf 2 0 [{ key := 10, val := (5, 2) }, { key := 12, val := (9, 9) }])
      else none }

example : checkTree exampleDump = true := by decide
example : toList exampleDump = [(3, (8, 1)), (7, (0, 0)), (10, (5, 2)), (12, (9, 9))] := by decide

/-- The checker is not vacuous: a key on the wrong side of its separator (the shape the unfixed rebalancer produced,
    KF-C10-interior-divider-from-child), a broken sibling link, a page reached twice and a cycle are all rejected. -/
theorem checkTree_rejects_misplaced_key :
    checkTree (exampleDump.withPage 2 (some (.leaf 0 3 [{ key := 3, val := (8, 1) }, { key := 10, val := (0, 0) }]))) = false := by
  decide

theorem checkTree_rejects_broken_link :
    checkTree (exampleDump.withPage 2 (some (.leaf 0 0 [{ key := 3, val := (8, 1) }, { key := 7, val := (0, 0) }]))) = false := by
  decide

theorem checkTree_rejects_shared_page :
    checkTree (exampleDump.withPage 1 (some (.interior 0 0 2 [{ left := 2, key := 10 }]))) = false := by
  decide

theorem checkTree_rejects_cycle :
    checkTree (exampleDump.withPage 1 (some (.interior 0 0 1 [{ left := 2, key := 10 }]))) = false := by
  decide

/-- What one accepted observation establishes: if the dump taken after a run of operations is accepted and its in-order
    contents equal the spec map folded over those operations, then on the real page graph every lookup and the scan
    answer exactly as the spec map does. -/
theorem accepted_dump_refines_spec (d : Dump) (ops : List Op) (h : checkTree d = true)
    (hc : toList d = specRun [] ops) :
    (∀ k, lookup d k = alookup k (specRun [] ops)) ∧ leafScan d = specRun [] ops ∧ Sorted (specRun [] ops) := by
  obtain ⟨t, _, _, hs, hscan, hl, _⟩ := checkTree_sound d h
  refine ⟨fun k => by rw [← hc]; exact hl k, by rw [← hc]; exact hscan, by rw [← hc]; exact hs⟩

/-- Comparing the in-order list with the spec map is comparing the maps: two sorted lists that answer every lookup
    alike are equal. -/
theorem same_answers_same_contents {a b : List (Nat × Val)} (ha : Sorted a) (hb : Sorted b)
    (h : ∀ k, alookup k a = alookup k b) : a = b := sorted_ext ha hb h

theorem spec_sorted (ops : List Op) : Sorted (specRun [] ops) :=
  specRun_sorted ops (by simp [keysOf])

/-- `insert` adds a missing key and refuses an existing one -/
theorem spec_insert (m : List (Nat × Val)) (k : Nat) (v : Val) (k' : Nat) :
    alookup k' (specStep m (.ins k v)).1 =
      if k' = k ∧ alookup k m = none then some v else alookup k' m := by
  simp only [specStep]
  cases hk : alookup k m with
  | none => simp [alookup_sinsert]
  | some x => simp

/-- `update` changes an existing key only -/
theorem spec_update (m : List (Nat × Val)) (k : Nat) (v : Val) (k' : Nat) :
    alookup k' (specStep m (.upd k v)).1 =
      if k' = k ∧ (alookup k m).isSome then some v else alookup k' m := by
  simp only [specStep]
  split
  · next hsome => rw [alookup_sinsert]; simp [hsome]
  · next hnone => simp [hnone]

/-- `upsert` always sets the key -/
theorem spec_upsert (m : List (Nat × Val)) (k : Nat) (v : Val) (k' : Nat) :
    alookup k' (specStep m (.ups k v)).1 = if k' = k then some v else alookup k' m := by
  simp only [specStep, alookup_sinsert]

/-- `remove` deletes exactly that key -/
theorem spec_remove {m : List (Nat × Val)} (hs : Sorted m) (k k' : Nat) :
    alookup k' (specStep m (.rm k)).1 = if k' = k then none else alookup k' m := by
  simp only [specStep]
  cases hk : alookup k m with
  | none =>
    -- nothing is removed, and the key was not there
    by_cases heq : k' = k
    · simp [heq, hk]
    · simp [heq]
  | some x => simpa using alookup_serase k hs k'

/-- `get` and `scan` leave the map alone and report it -/
theorem spec_reads (m : List (Nat × Val)) (k : Nat) :
    specStep m (.get k) = (m, .found (alookup k m)) ∧ specStep m .scan = (m, .list m) := ⟨rfl, rfl⟩

open AxVerif.Balance in
/-- `split_cells` cuts the cell array in two consecutive pieces, and the right piece is never empty. -/
theorem splitCells_partition (sizes : List Nat) :
    (splitCells sizes).1 ++ (splitCells sizes).2 = sizes ∧ (sizes ≠ [] → (splitCells sizes).2 ≠ []) :=
  ⟨splitCells_append sizes, splitCells_right_ne_nil sizes⟩

open AxVerif.Balance in
/-- … and the left piece is non-empty as soon as the first cell alone is less than half of the total. -/
theorem splitCells_left_nonempty (a : Nat) (rest : List Nat) (h : 2 * a < sum (a :: rest)) :
    (splitCells (a :: rest)).1 ≠ [] := splitCells_left_ne_nil a rest h

open AxVerif.Balance in
/-- The full statement of the design (“both non-empty when there are at least two cells”) is **false** of the code:
    a first cell of at least half the total leaves the left page empty. -/
def splitCells_both_nonempty_statement : Prop :=
  ∀ sizes : List Nat, 2 ≤ sizes.length → (splitCells sizes).1 ≠ [] ∧ (splitCells sizes).2 ≠ []

open AxVerif.Balance in
theorem splitCells_left_empty_witness : ¬ splitCells_both_nonempty_statement := by
  intro h
  have := (h [1000, 10, 10] (by decide)).1
  exact this (by decide)

open AxVerif.Balance in
/-- Greedy phase of `compute_best_cell_distribution`: every cell is assigned, in order, and no page is loaded beyond
    `usable` — provided no single cell is larger than `usable`. -/
theorem greedy_post (usable : Nat) (sizes : List Nat) (h : ∀ s ∈ sizes, s ≤ usable) :
    sum (greedy usable sizes).2 = sizes.length ∧ (greedy usable sizes).1.length = (greedy usable sizes).2.length ∧
      (∀ t ∈ (greedy usable sizes).1, t ≤ usable) ∧ loads sizes (greedy usable sizes).2 = (greedy usable sizes).1 :=
  greedy_spec usable sizes h

open AxVerif.Balance in
/-- Whatever the fix-up does, if `compute_best_cell_distribution` returns at all, the counts still deal out every cell
    exactly once and in order (the pages get consecutive runs of the cell array). -/
theorem bestDistribution_counts (usable under : Nat) (sizes tot cnt : List Nat)
    (h : bestDistribution usable under sizes = some (tot, cnt)) : sum cnt = sizes.length :=
  bestDistribution_sum usable under sizes tot cnt h

open AxVerif.Balance in
/-- The unbounded `while` of the fix-up always ends: every iteration moves the divider one cell to the left and the
    code panics when it reaches cell 0, so `divider + 1` iterations are an upper bound. Running out of fuel is
    therefore unreachable in the model (fuel = number of cells + 2 > divider + 1). -/
theorem fixup_terminates (sizes : List Nat) (under i : Nat) (f : Fix) (fuel : Nat) (h : f.div + 1 < fuel) :
    fixPageR sizes under i fuel f ≠ .outOfFuel :=
  (fixPageR_spec sizes under i fuel f).2 h

open AxVerif.Balance in
/-- Full statement of the design: after the fix-up no page is loaded beyond `usable`. It is **not** claimed: the fix-up
    subtracts the size of the wrong cell and does not re-base the divider, so the returned totals are not the loads, and
    the final "left bias" step moves a cell into the first page without looking at its size. -/
def bestDistribution_loads_statement : Prop :=
  ∀ usable under sizes tot cnt, (∀ s ∈ sizes, s ≤ usable) → under ≤ usable →
    bestDistribution usable under sizes = some (tot, cnt) → ∀ l ∈ loads sizes cnt, l ≤ usable

open AxVerif.Balance in
theorem bestDistribution_loads_witness : ¬ bestDistribution_loads_statement := by
  intro h
  have := h 100 40 [10, 95, 50] [10, 95, 50] [2, 0, 1] (by decide) (by decide) (by decide) 105 (by decide)
  omega

/-! ### slotted-page accounting (storage/core/buffer.rs) — checked on every page of every dump -/

open AxVerif.Slotted in
/-- What the per-page check establishes about a real page: cells inside [free space pointer, end of page), aligned,
    pairwise disjoint, `free_space` exact, slot array below the cells. -/
theorem slotted_check_sound (p : SPage) (h : wfB p = true) : Wf p := wfB_sound h

open AxVerif.Slotted in
/-- `remove`, `replace` by a cell that is not larger, and `insert` into a large enough gap keep the invariant. -/
theorem slotted_ops_preserve (hdr : Nat) (p q : SPage) (hw : Wf p) :
    (∀ idx, removeSlot p idx = some q → Wf q) ∧
    (∀ idx n, replaceShrink Defects.none p idx n = some q → Wf q) ∧
    (∀ idx size, insertAt hdr p idx size = some q → Wf q) :=
  ⟨fun _ h => removeSlot_wf hw h, fun _ _ h => replaceShrink_wf hw h, fun _ _ h => insertAt_wf hw h⟩

open AxVerif.Slotted in
/-- The shipped `replace` (KF-C10-replace-moves-free-pointer, fixed by 4725b87): shrinking the first cell of a page in
    place and then inserting a cell makes two cells overlap. -/
theorem replaceMovesFsp_witness :
    ∃ p q r : SPage, wfB p = true ∧ replaceShrink { replaceMovesFsp := true } p 0 16 = some q ∧
      insertAt 80 q 2 32 = some r ∧ wfB r = false ∧ disjointB r.slots = false :=
  ⟨{ cap := 4016, slots := [(3984, 32), (3952, 32)], fsp := 3952, free := 3948 },
   { cap := 4016, slots := [(3984, 16), (3952, 32)], fsp := 3968, free := 3964 },
   { cap := 4016, slots := [(3984, 16), (3952, 32), (3936, 32)], fsp := 3936, free := 3930 },
   by decide, by decide, by decide, by decide, by decide⟩

open AxVerif.Slotted in
/-- … and without the defect the same two steps keep the page well formed. -/
example : ∃ q r : SPage,
    replaceShrink Defects.none { cap := 4016, slots := [(3984, 32), (3952, 32)], fsp := 3952, free := 3948 } 0 16 = some q ∧
      insertAt 80 q 2 32 = some r ∧ wfB r = true :=
  ⟨{ cap := 4016, slots := [(3984, 16), (3952, 32)], fsp := 3952, free := 3964 },
   { cap := 4016, slots := [(3984, 16), (3952, 32), (3920, 32)], fsp := 3920, free := 3930 },
   by decide, by decide, by decide⟩

end AxVerif.C10
