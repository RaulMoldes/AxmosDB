/-
  C11 — Every page has exactly one owner; freed pages are reused, never lost.

  Two parts.

  A. The page allocator of io/pager.rs (`Pages.alloc` / `Pages.dealloc`, pointer level: header fields and `next` links)
     refines a FIFO queue of free page ids (`Pages.Abs`) for every sequence of operations that respects the caller's contract
     (only pages that were handed out are given back). Consequences: used and free pages partition 1 … total-1 at every step,
     the free list a reader of the file finds is duplicate free and consistent with the recorded head and tail, the file
     never grows while a free page exists, pages are reused in the order in which they were freed. What the code does when the
     contract is broken (double free) is stated too. The tie is the `seq` cases of engine `pager`.

  B. `checkOwnership` is a verified checker for whole-file dumps of a real database (taken after every statement of the SQL
     histories of engine `pager`): an accepted dump *proves* that every page other than page zero is exactly one of: a node of
     exactly one tree, a link of exactly one overflow chain of exactly one stored cell, a member of the free list; that the
     free list is acyclic and consistent with the recorded head and tail; and that no page is lost.
-/
import AxVerif.Lemmas.Pages
import AxVerif.Thm.C10
namespace AxVerif.C11
open AxVerif.Pages
open AxVerif.BTree hiding Op Res

/-- `used` are the pages handed out and not yet given back. -/
structure Partition (s : Alloc) (used : List Nat) : Prop where
  free_nodup : (freeList s).Nodup
  used_nodup : used.Nodup
  disjoint : ∀ p ∈ used, p ∉ freeList s
  cover : ∀ p, (0 < p ∧ p < s.total) ↔ (p ∈ used ∨ p ∈ freeList s)
  head : s.first = (freeList s).headD 0
  tail : s.last = FileDump.lastD (freeList s)

theorem partition_of_inv {s : Alloc} {a : Abs} (h : Inv s a) : Partition s a.used ∧ freeList s = a.free := by
  have hfl := h.freeList_eq
  refine ⟨⟨?_, h.usedNodup, ?_, ?_, ?_, ?_⟩, hfl⟩
  · rw [hfl]; exact h.freeNodup
  · intro p hp hq; rw [hfl] at hq; exact h.disj p hq hp
  · intro p; rw [hfl, h.total]; exact h.cover p
  · rw [hfl]; exact h.first_eq
  · rw [hfl]; exact h.last

/-- **Partition, for any sequence of operations.** Whatever sequence of allocations, deallocations of handed-out pages, link
    updates of handed-out pages and checkpoints is applied to a fresh file, the pointer-level state represents the
    specification state: used ∪ free = 1 … total-1, disjoint, free list duplicate free, head/tail consistent; and the free
    list found by walking the `next` links is the specification's queue. -/
theorem alloc_dealloc_preserve_partition (ops : List Op) (h : legal ops = true) :
    ∃ a, Abs.init.run ops = some a ∧ Partition (run {} Alloc.init ops) a.used ∧
      freeList (run {} Alloc.init ops) = a.free ∧ (run {} Alloc.init ops).total = a.total := by
  unfold legal at h
  cases hr : Abs.init.run ops with
  | none => rw [hr] at h; cases h
  | some a =>
    have hinv := run_inv ops inv_init hr
    exact ⟨a, rfl, (partition_of_inv hinv).1, (partition_of_inv hinv).2, hinv.total⟩

/-- reached from a fresh file by a contract-respecting sequence; the theorems below assume `Inv`, which holds of these
    states (`reachable_inv`) -/
def Reachable (s : Alloc) (a : Abs) : Prop := ∃ ops, Abs.init.run ops = some a ∧ s = run {} Alloc.init ops

theorem reachable_inv {s : Alloc} {a : Abs} (h : Reachable s a) : Inv s a := by
  obtain ⟨ops, hr, rfl⟩ := h
  exact run_inv ops inv_init hr

/-- the hypothesis is satisfiable by a non-trivial state: three pages handed out, two given back -/
example : Reachable (run {} Alloc.init [.alloc false, .alloc true, .alloc false, .dealloc 2 true, .dealloc 1 false])
    { total := 4, free := [2, 1], used := [3] } := ⟨_, by decide, rfl⟩

/-- **Reuse before growth.** While the free list is not empty an allocation returns its head and the file keeps its size. -/
theorem alloc_reuses_before_growing {s : Alloc} {a : Abs} (h : Inv s a) (k : Bool) (p : Nat)
    (hp : (freeList s).head? = some p) :
    (alloc s k).2 = .ok p ∧ (alloc s k).1.total = s.total ∧ freeList (alloc s k).1 = (freeList s).tail := by
  obtain ⟨hi, ho⟩ := alloc_inv h k
  rw [h.freeList_eq] at hp ⊢
  cases hf : a.free with
  | nil => rw [hf] at hp; cases hp
  | cons x xs =>
    rw [hf] at hp
    simp only [List.head?_cons, Option.some.injEq] at hp
    subst hp
    rw [Abs.alloc_cons hf] at hi ho
    refine ⟨ho, ?_, ?_⟩
    · rw [hi.total, h.total]
    · rw [hi.freeList_eq]; rfl

/-- … and unconditionally: with a recorded free head the allocator never extends the file (not even when it fails). -/
theorem alloc_never_grows_with_free_head (s : Alloc) (k : Bool) (h : s.first ≠ 0) : (alloc s k).1.total = s.total := by
  unfold alloc
  simp only [h, if_false]
  split <;> rfl

/-- with an empty free list the file grows by exactly one page, which is the page returned -/
theorem alloc_grows_when_empty {s : Alloc} {a : Abs} (h : Inv s a) (k : Bool) (he : freeList s = []) :
    (alloc s k).2 = .ok s.total ∧ (alloc s k).1.total = s.total + 1 := by
  have hfirst : s.first = 0 := by rw [h.first_eq, ← h.freeList_eq, he]; rfl
  rw [alloc_grow k hfirst]
  exact ⟨rfl, rfl⟩

/-- **Page zero is never freed**: the call is rejected and nothing changes. -/
theorem dealloc_zero_rejected (D : Defects) (s : Alloc) (k : Bool) : dealloc D s 0 k = (s, .error .invalidInput) := by
  simp [dealloc]

/-- a freed page goes to the tail of the free list -/
theorem dealloc_appends {s : Alloc} {a : Abs} (h : Inv s a) (p : Nat) (k : Bool) (hp : p ∈ a.used) :
    freeList (dealloc {} s p k).1 = freeList s ++ [p] ∧ (dealloc {} s p k).1.total = s.total := by
  obtain ⟨hi, _⟩ := dealloc_inv h p k hp
  rw [hi.freeList_eq, h.freeList_eq]
  exact ⟨rfl, by rw [hi.total, h.total]; rfl⟩

def runOuts (D : Defects) (s : Alloc) : List Op → Alloc × List Out
  | [] => (s, [])
  | op :: ops =>
    let r := step D s op
    let rest := runOuts D r.1 ops
    (rest.1, r.2 :: rest.2)

theorem runOuts_append (D : Defects) : ∀ (xs ys : List Op) (s : Alloc),
    runOuts D s (xs ++ ys) = ((runOuts D (runOuts D s xs).1 ys).1, (runOuts D s xs).2 ++ (runOuts D (runOuts D s xs).1 ys).2) := by
  intro xs
  induction xs with
  | nil => intro ys s; simp [runOuts]
  | cons x xs ih => intro ys s; simp [runOuts, ih]

theorem deallocs_append (kd : Bool) : ∀ (ps : List Nat) {s : Alloc} {a : Abs}, Inv s a → ps.Nodup → (∀ p ∈ ps, p ∈ a.used) →
    ∃ a', Inv (runOuts {} s (ps.map (Op.dealloc · kd))).1 a' ∧ a'.free = a.free ++ ps ∧ a'.total = a.total ∧
      (runOuts {} s (ps.map (Op.dealloc · kd))).2 = ps.map (fun _ => Out.ok) := by
  intro ps
  induction ps with
  | nil => intro s a h _ _; exact ⟨a, h, (List.append_nil _).symm, rfl, rfl⟩
  | cons p ps ih =>
    intro s a h hnd hsub
    rw [List.nodup_cons] at hnd
    have hp : p ∈ a.used := hsub p (List.mem_cons_self ..)
    obtain ⟨hi, ho⟩ := step_inv h (.dealloc p kd) (if_pos hp)
    -- the other pages are still handed out: they differ from `p`
    have hsub' : ∀ q ∈ ps, q ∈ (a.dealloc p).used := fun q hq =>
      (h.usedNodup.mem_erase_iff).mpr ⟨fun he => hnd.1 (he ▸ hq), hsub q (List.mem_cons_of_mem _ hq)⟩
    obtain ⟨a', hi', hfree, htot, houts⟩ := ih hi hnd.2 hsub'
    refine ⟨a', hi', ?_, htot, ?_⟩
    · rw [hfree]; exact List.append_assoc ..
    · show (step {} s (.dealloc p kd)).2 :: _ = _
      rw [ho _ rfl, houts]
      rfl

theorem allocs_pop : ∀ (ks : List Bool) {s : Alloc} {a : Abs}, Inv s a → ks.length ≤ a.free.length →
    ∃ a', Inv (runOuts {} s (ks.map Op.alloc)).1 a' ∧ a'.free = a.free.drop ks.length ∧ a'.total = a.total ∧
      (runOuts {} s (ks.map Op.alloc)).2 = (a.free.take ks.length).map Out.page := by
  intro ks
  induction ks with
  | nil => intro s a h _; exact ⟨a, h, rfl, rfl, rfl⟩
  | cons k ks ih =>
    intro s a h hlen
    cases hf : a.free with
    | nil => rw [hf] at hlen; cases hlen
    | cons x xs =>
      obtain ⟨hi, ho⟩ := step_inv h (.alloc k) rfl
      have habs := Abs.alloc_cons hf
      rw [habs] at hi
      rw [hf] at hlen
      obtain ⟨a', hi', hfree, htot, houts⟩ := ih hi (Nat.le_of_succ_le_succ hlen)
      refine ⟨a', hi', hfree, htot, ?_⟩
      · show (step {} s (.alloc k)).2 :: _ = _
        rw [ho _ rfl, houts, habs]
        rfl

/-- **FIFO reuse.** From any reachable state: give back the handed-out pages `ps` (in this order), then allocate as many pages
    as are free now. The allocations return first the pages that were free before, then `ps`, each in the order in which it
    was freed, and the file does not grow. -/
theorem dealloc_then_alloc_fifo {s : Alloc} {a : Abs} (h : Inv s a) (ps : List Nat) (hnd : ps.Nodup)
    (hsub : ∀ p ∈ ps, p ∈ a.used) (kd : Bool) (ks : List Bool) (hk : ks.length = a.free.length + ps.length) :
    (runOuts {} s (ps.map (Op.dealloc · kd) ++ ks.map Op.alloc)).2 =
        ps.map (fun _ => Out.ok) ++ (a.free ++ ps).map Out.page ∧
      (runOuts {} s (ps.map (Op.dealloc · kd) ++ ks.map Op.alloc)).1.total = s.total := by
  obtain ⟨a1, hi1, hfree1, htot1, houts1⟩ := deallocs_append kd ps h hnd hsub
  obtain ⟨a2, hi2, _, htot2, houts2⟩ := allocs_pop ks hi1 (by rw [hfree1]; simp [hk])
  rw [runOuts_append]
  refine ⟨?_, ?_⟩
  · simp only
    rw [houts1, houts2, hfree1]
    have : ks.length = (a.free ++ ps).length := by simp [hk]
    rw [this, List.take_length]
  · simp only
    rw [hi2.total, htot2, htot1, h.total]

/-- **What a double free does** (the code has no check; `dealloc_page` of a page that is already free):
    * of the tail of the free list: nothing changes — the state still represents the same queue;
    * of any other free page `p` (free list `pre ++ p :: post`, `post ≠ []`): the list is cut after `p` — a reader finds
      `pre ++ [p]` — and every page of `post` is **lost**: neither free nor used, although inside the file. -/
theorem double_free_statement {s : Alloc} {a : Abs} (h : Inv s a) (p : Nat) (k : Bool) :
    (a.free ≠ [] → p = FileDump.lastD a.free → Inv (dealloc {} s p k).1 a) ∧
    (∀ pre post, a.free = pre ++ p :: post → post ≠ [] →
        freeList (dealloc {} s p k).1 = pre ++ [p] ∧ (dealloc {} s p k).1.total = s.total ∧
        ∀ q ∈ post, q ∉ freeList (dealloc {} s p k).1 ∧ q ∉ a.used ∧ 0 < q ∧ q < s.total) := by
  constructor
  · intro hne hpl
    obtain ⟨pre, hpre⟩ := eq_append_lastD hne
    rw [← hpl] at hpre
    obtain ⟨nx, ov, hd, hseg, -, hkind⟩ := h.double_free (post := []) hpre k
    rw [hd]
    exact { h with path := hpre ▸ hseg, last := hpl, kind := hkind }
  · intro pre post hfree hpost
    obtain ⟨nx, ov, hd, -, hfl, -⟩ := h.double_free hfree k
    rw [hd]
    refine ⟨hfl, rfl, fun q hq => ?_⟩
    have hqfree : q ∈ a.free := hfree ▸ List.mem_append_right _ (List.mem_cons_of_mem _ hq)
    refine ⟨fun (hm : q ∈ walk nx s.total s.first) => ?_, h.disj q hqfree, (h.free_pos q hqfree).1,
      h.total ▸ (h.free_pos q hqfree).2⟩
    -- `q` comes after `p` in a list without duplicates
    obtain ⟨-, hnd, hcross⟩ := List.nodup_append.mp (hfree ▸ h.freeNodup)
    rcases List.mem_append.mp (hfl ▸ hm) with hqpre | hqp
    · exact hcross q hqpre q (List.mem_cons_of_mem _ hq) rfl
    · cases List.mem_singleton.mp hqp
      exact (List.nodup_cons.mp hnd).1 hq

/-- Consequently a double free of a page that is not the tail breaks the partition: some page of the file is neither used nor free. -/
theorem double_free_breaks_partition {s : Alloc} {a : Abs} (h : Inv s a) (p : Nat) (k : Bool) (pre post : List Nat)
    (hfree : a.free = pre ++ p :: post) (hpost : post ≠ []) : ¬ Partition (dealloc {} s p k).1 a.used := by
  intro hpart
  obtain ⟨_, htot, hlost⟩ := (double_free_statement h p k).2 pre post hfree hpost
  cases post with
  | nil => exact hpost rfl
  | cons q qs =>
    obtain ⟨hnf, hnu, hq0, hqt⟩ := hlost q (List.mem_cons_self ..)
    exact ((hpart.cover q).mp ⟨hq0, htot ▸ hqt⟩).elim hnu hnf

/-! ### witnesses: the shipped `MemFrame::dealloc` kept the header of an overflow frame (KF-C11-dealloc-keeps-next, fixed) -/

/-- With the shipped defect, freeing the first page of a two-page overflow chain puts the second page — still in use — on the
    free list as well: the next two allocations hand out page 1 and then page 2 although page 2 was never freed. -/
theorem deallocKeepsNext_witness :
    let D : Defects := { deallocKeepsNext := true }
    let ops := [Op.alloc true, .alloc true, .link 1 2, .dealloc 1 true]
    freeList (run D Alloc.init ops) = [1, 2] ∧
      (runOuts D Alloc.init (ops ++ [.alloc true, .alloc true])).2 = [.page 1, .page 2, .ok, .ok, .page 1, .page 2] ∧
      freeList (run {} Alloc.init ops) = [1] := by
  decide

/-- With the shipped defect, a double free of the tail of the free list makes the page its own successor: the free list is
    cyclic and the page is handed out twice in a row (to two different owners). Without the defect the double free of the tail is harmless. -/
theorem deallocKeepsNext_double_free_witness :
    let D : Defects := { deallocKeepsNext := true }
    let ops := [Op.alloc true, .dealloc 1 true, .dealloc 1 true]
    (run D Alloc.init ops).next 1 = 1 ∧
      (runOuts D Alloc.init (ops ++ [.alloc true, .alloc true, .alloc true])).2 = [.page 1, .ok, .ok, .page 1, .page 1, .page 2] ∧
      (runOuts {} Alloc.init (ops ++ [.alloc true, .alloc true, .alloc true])).2 = [.page 1, .ok, .ok, .page 1, .page 2, .page 3] := by
  decide

open FileDump

def ExactlyOne (a b c : Prop) : Prop := (a ∧ ¬b ∧ ¬c) ∨ (¬a ∧ b ∧ ¬c) ∨ (¬a ∧ ¬b ∧ c)

/-- below every root the page graph is a tree of B-tree pages (no cycle: the extraction is fuel bounded and succeeded) -/
def TreesOf (f : FileDump) (ts : List T) : Prop :=
  AllRel (fun r t => treeOf (f.dumpOf r) = some t) f.roots ts

def TreeNode (ts : List T) (p : Nat) : Prop := ∃ t ∈ ts, p ∈ t.ids

/-- the overflow chains of the cells stored in the nodes of the trees: one entry per stored cell (page by page, slot by slot;
    `[]` for a cell without a chain) -/
def cellChains (f : FileDump) (ts : List T) : List (List Nat) := chainsOf Defects.none f (ts.map T.ids).flatten

def OverflowLink (f : FileDump) (ts : List T) (p : Nat) : Prop := ∃ c ∈ cellChains f ts, p ∈ c

structure FreeListOk (f : FileDump) (fl : List Nat) : Prop where
  path : LinkPath f.link f.firstFree fl
  acyclic : fl.Nodup
  tail : lastD fl = f.lastFree

/-- in a well-formed free list the page recorded as `last_free` has `next = none` -/
theorem FreeListOk.tail_next_none {f : FileDump} {fl : List Nat} (h : FreeListOk f fl) (hne : fl ≠ []) :
    f.link f.lastFree = some 0 := by
  rw [← h.tail]; exact linkPath_last_none h.path hne

/-- … and an empty free list is recorded as (none, none) -/
theorem FreeListOk.empty_heads {f : FileDump} (h : FreeListOk f []) : f.firstFree = 0 ∧ f.lastFree = 0 :=
  ⟨h.path, by rw [← h.tail]; rfl⟩

structure Ownership (f : FileDump) (ts : List T) (fl : List Nat) : Prop where
  trees : TreesOf f ts
  free : FreeListOk f fl
  exactlyOne : ∀ p, 0 < p → p < f.total → ExactlyOne (TreeNode ts p) (OverflowLink f ts p) (p ∈ fl)
  inFile : ∀ p, TreeNode ts p ∨ OverflowLink f ts p ∨ p ∈ fl → 0 < p ∧ p < f.total
  oneTree : ∀ (i j : Nat) (hi : i < ts.length) (hj : j < ts.length) (p : Nat), p ∈ ts[i].ids → p ∈ ts[j].ids → i = j
  treeNodup : ∀ t ∈ ts, t.ids.Nodup
  oneCell : ∀ (i j : Nat) (hi : i < (cellChains f ts).length) (hj : j < (cellChains f ts).length) (p : Nat),
    p ∈ (cellChains f ts)[i] → p ∈ (cellChains f ts)[j] → i = j
  chains : ∀ c ∈ cellChains f ts, c.Nodup ∧ LinkPath f.link (c.headD 0) c

theorem exactlyOne_of_append {a b c : List Nat} (h : (a ++ b ++ c).Nodup) (p : Nat) (hp : p ∈ a ++ b ++ c) :
    ExactlyOne (p ∈ a) (p ∈ b) (p ∈ c) := by
  rw [List.nodup_append, List.nodup_append] at h
  obtain ⟨⟨_, _, hab⟩, _, habc⟩ := h
  simp only [List.mem_append] at hp habc
  rcases hp with (ha | hb) | hc
  · exact Or.inl ⟨ha, fun hb => hab p ha p hb rfl, fun hc => habc p (Or.inl ha) p hc rfl⟩
  · exact Or.inr (Or.inl ⟨fun ha => hab p ha p hb rfl, hb, fun hc => habc p (Or.inr hb) p hc rfl⟩)
  · exact Or.inr (Or.inr ⟨fun ha => habc p (Or.inl ha) p hc rfl, fun hb => habc p (Or.inr hb) p hc rfl, hc⟩)

/-- **Soundness of the checker.** If `checkOwnership` accepts a dump then: below every catalog root the page graph is a
    tree; every page id in 1 … total-1 is exactly one of (a) a node of a tree — of exactly one tree, reached exactly once —,
    (b) a link of an overflow chain — of the chain of exactly one stored cell, exactly once, the chain being properly linked
    and terminated —, (c) a member of the free list; the free list starts at `first_free`, is acyclic, ends at `last_free`,
    whose `next` is none; no page is both free and used; and no page is unreachable ("lost"). -/
theorem checkOwnership_sound (f : FileDump) (h : checkOwnership f = true) :
    ∃ ts fl, f.trees = some ts ∧ f.freeWalk = some fl ∧ Ownership f ts fl := by
  unfold checkOwnership checkWith at h
  cases hts : f.trees with
  | none => simp [hts] at h
  | some ts =>
    cases hfl : f.freeWalk with
    | none => simp [hts, hfl] at h
    | some fl =>
      simp only [hts, hfl, Bool.and_eq_true, decide_eq_true_eq, beq_iff_eq] at h
      obtain ⟨⟨hchains, htail⟩, hsort⟩ := h
      -- the owners are a permutation of 1 … total-1
      obtain ⟨hnd, hmem⟩ : ((ts.map T.ids).flatten ++ (cellChains f ts).flatten ++ fl).Nodup ∧ _ := owners_of_sorted hsort
      obtain ⟨hndOwned, hndFree, -⟩ := List.nodup_append.mp hnd
      obtain ⟨hndNodes, hndChains, -⟩ := List.nodup_append.mp hndOwned
      have hnode : ∀ p, TreeNode ts p ↔ p ∈ (ts.map T.ids).flatten := fun p =>
        ⟨fun ⟨t, ht, hp⟩ => List.mem_flatten.mpr ⟨_, List.mem_map_of_mem ht, hp⟩, fun h => by
          obtain ⟨_, hl, hp⟩ := List.mem_flatten.mp h
          obtain ⟨t, ht, rfl⟩ := List.mem_map.mp hl
          exact ⟨t, ht, hp⟩⟩
      have hlink : ∀ p, OverflowLink f ts p ↔ p ∈ (cellChains f ts).flatten := fun p => List.mem_flatten.symm
      refine ⟨ts, fl, rfl, rfl, allSome_allRel _ hts, ⟨walkFree_path hfl, hndFree, htail⟩, fun p hp0 hpt => ?_,
        fun p hp => (hmem p).mp ?_, (mem_unique_of_flatten_nodup hndNodes).1, (mem_unique_of_flatten_nodup hndNodes).2,
        (mem_unique_of_flatten_nodup (g := id) (by rwa [List.map_id])).1, fun c hc => ?_⟩
      · have := exactlyOne_of_append hnd p ((hmem p).mpr ⟨hp0, hpt⟩)
        rwa [← hnode, ← hlink] at this
      · rw [List.mem_append, List.mem_append, ← hnode, ← hlink]
        exact or_assoc.mpr hp
      · refine ⟨(mem_unique_of_flatten_nodup (g := id) (by rwa [List.map_id])).2 c hc,
          chainLinked_path (List.all_eq_true.mp hchains c hc) fun x hx hx0 => ?_⟩
        -- a chain link is an owner, and page zero is none
        have := (hmem x).mp (List.mem_append_left _ (List.mem_append_right _ (List.mem_flatten.mpr ⟨c, hc, hx⟩)))
        exact absurd this.1 (hx0 ▸ Nat.lt_irrefl 0)

/-- No page is both free and used, and no page is lost — the two halves of `exactlyOne`, spelled out. -/
theorem accepted_dump_no_overlap_no_loss (f : FileDump) (h : checkOwnership f = true) :
    ∃ ts fl, Ownership f ts fl ∧
      (∀ p ∈ fl, ¬ TreeNode ts p ∧ ¬ OverflowLink f ts p) ∧
      (∀ p, 0 < p → p < f.total → TreeNode ts p ∨ OverflowLink f ts p ∨ p ∈ fl) := by
  obtain ⟨ts, fl, _, _, ho⟩ := checkOwnership_sound f h
  refine ⟨ts, fl, ho, ?_, ?_⟩
  · intro p hp
    have hin := ho.inFile p (Or.inr (Or.inr hp))
    rcases ho.exactlyOne p hin.1 hin.2 with h1 | h1 | h1
    · exact absurd hp h1.2.2
    · exact absurd hp h1.2.2
    · exact ⟨h1.1, h1.2.1⟩
  · intro p hp0 hpt
    rcases ho.exactlyOne p hp0 hpt with h1 | h1 | h1
    · exact Or.inl h1.1
    · exact Or.inr (Or.inl h1.2.1)
    · exact Or.inr (Or.inr h1.2.2)

/-- The per-tree part through C10: a tree of an accepted file that `checkTree` accepts as well is a correct ordered map
    (sorted contents, scan = contents, lookups right for every key, uniform depth, levels linked) and it is the tree the
    ownership statement talks about. -/
theorem accepted_tree_checked (f : FileDump) (ts : List T) (fl : List Nat) (ho : Ownership f ts fl) (i : Nat)
    (hi : i < f.roots.length) (hc : checkTree (f.dumpOf f.roots[i]) = true) :
    ∃ (hj : i < ts.length), treeOf (f.dumpOf f.roots[i]) = some ts[i] ∧ ts[i].ids.Nodup ∧
      C10.Sorted (ts[i].toList) ∧ (∀ k, lookup (f.dumpOf f.roots[i]) k = alookup k ts[i].toList) ∧ C10.UniformDepth ts[i] := by
  have hlen := ho.trees.length_eq
  have hj : i < ts.length := by rw [← hlen]; exact hi
  have hrel := ho.trees.get i hi hj
  have ha := accepted_of_treeOf hc hrel
  exact ⟨hj, hrel, distinct_nodup ha.check.distinct, ha.list ▸ ha.sorted, fun k => ha.list ▸ ha.lookup k, ha.uniformDepth⟩

/-- A small file: catalog-less, one tree rooted at page 1 (an interior page with leaves 2 and 3), the second cell of leaf 3
    has a two-page overflow chain 4 → 5, pages 6 → 7 are free. -/
def exampleFile : FileDump :=
  { total := 8, firstFree := 6, lastFree := 7,
    link := fun i => if i = 4 then some 5 else if i = 5 then some 0 else if i = 6 then some 7 else if i = 7 then some 0 else none,
    page := fun i =>
      if i = 1 then some (.interior 0 0 3 [{ left := 2, key := 10 }])
      else if i = 2 then some (.leaf 0 3 [{ key := 3, val := (8, 1) }])
      else if i = 3 then some (.leaf 2 0 [{ key := 10, val := (5, 2) }, { key := 12, val := (9000, 9), chain := [4, 5] }])
      else none,
    roots := [1] }

example : checkOwnership exampleFile = true := by decide

/-- a page that nobody owns (page 7 dropped from the free list: the tail now is 6) is rejected -/
theorem checkOwnership_rejects_lost_page :
    checkOwnership
      { exampleFile with
        lastFree := 6
        link := fun i => if i = 4 then some 5 else if i = 5 then some 0 else if i = 6 then some 0 else if i = 7 then some 0 else none } = false := by
  decide

/-- a page that is both free and a chain link is rejected -/
theorem checkOwnership_rejects_free_and_used :
    checkOwnership
      { exampleFile with
        link := fun i => if i = 4 then some 5 else if i = 5 then some 0 else if i = 6 then some 7 else if i = 7 then some 5 else none
        lastFree := 5 } = false := by
  decide

/-- a cyclic free list is rejected -/
theorem checkOwnership_rejects_cycle :
    checkOwnership
      { exampleFile with
        link := fun i => if i = 4 then some 5 else if i = 5 then some 0 else if i = 6 then some 7 else if i = 7 then some 6 else none } = false := by
  decide

/-- a wrong recorded tail is rejected -/
theorem checkOwnership_rejects_wrong_tail : checkOwnership { exampleFile with lastFree := 6 } = false := by decide

/-- **KF-C11-divider-shares-chain** (the shape the rebalancer produced while a divider was a full copy: the divider in the interior page is a copy of the leaf
    cell, overflow pointer included): the chain 4 → 5 is referenced by two cells, the checker rejects; the judge's tolerance
    flag `dividerSharesChain` (which does not count the chains of dividers) accepts exactly this. -/
def sharedDividerFile : FileDump :=
  { exampleFile with
    page := fun i =>
      if i = 1 then some (.interior 0 0 3 [{ left := 2, key := 10, chain := [4, 5] }])
      else if i = 2 then some (.leaf 0 3 [{ key := 3, val := (8, 1) }])
      else if i = 3 then some (.leaf 2 0 [{ key := 10, val := (9000, 9), chain := [4, 5] }])
      else none }

theorem dividerSharesChain_witness :
    checkOwnership sharedDividerFile = false ∧ checkWith { dividerSharesChain := true } sharedDividerFile = true := by
  decide

end AxVerif.C11
