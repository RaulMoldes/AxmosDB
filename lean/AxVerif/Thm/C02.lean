/-
  C02 — A crash leaves no trace of unfinished or rolled-back transactions.

  With `recover_crash_eq_replay_durable` (C01) the recovered state is `replay [] D` for the durable log `D`.
  The theorems here say what that state can contain: only transactions with a durable COMMIT (not followed by an
  ABORT), each with all of its operations; erasing every record of a loser changes nothing.
-/
import AxVerif.Thm.C01
namespace AxVerif.Recovery
open AxVerif AxVerif.Durable

theorem isWinner_filter_ne (rs : List Rec) (t t' : Nat) (h : t' ≠ t) :
    isWinner (rs.filter (fun r => r.tid != t)) t' = isWinner rs t' := by
  unfold isWinner
  rw [List.foldl_filter]
  refine foldl_congr_mem _ _ rs false (fun w r _ => ?_)
  split
  · rfl
  · rename_i e
    exact (winnerStep_of_ne (fun x => h (x.symm.trans (by simpa using e))) w).symm

/-- **No trace of a loser.** If transaction `t` is not a winner of the durable log `D` (still open at the crash,
    rolled back, failed, or its COMMIT never reached the disk), then recovery yields exactly what it would yield had
    `t` never written a single record. -/
theorem loser_leaves_no_trace (s : DbState) (D : List Rec) (t : Nat) (h : isWinner D t = false) :
    replay s D = replay s (D.filter (fun r => r.tid != t)) := by
  unfold replay replayIn
  rw [List.foldl_filter]
  refine foldl_congr_mem _ _ D s (fun s r _ => ?_)
  -- a record of `t` is an operation of a loser or no operation; for the others analysis is unaffected by erasing `t`
  cases r with
  | op t' d =>
    by_cases e : t' = t
    · rw [if_neg (by simpa [Rec.tid] using e)]
      simp only [redoStep, e, h]
      rfl
    · rw [if_pos (by simpa [Rec.tid] using e)]
      simp only [redoStep, isWinner_filter_ne D t t' e]
  | commit t' => split <;> rfl
  | abort t' => split <;> rfl

/-- Only a transaction with a durable COMMIT record can contribute to the recovered state. -/
theorem only_committed_contribute (D : List Rec) (t : Nat) (h : Rec.commit t ∉ D) (s : DbState) :
    replay s D = replay s (D.filter (fun r => r.tid != t)) := by
  apply loser_leaves_no_trace
  cases hw : isWinner D t with
  | false => rfl
  | true => exact absurd (commit_mem_of_isWinner hw) h

/-- **C02.** For every trace, every crash point and every transaction: if its COMMIT record is not durable at the
    crash point (it was open, rolled back, failed, or committing but not yet forced), the recovered database equals
    the one recovered from the durable history with that transaction erased; if it is durable (acknowledged, or in
    flight with its COMMIT forced), then *all* of its records are durable (C01), so it is visible as a whole. -/
theorem crash_shows_whole_transactions_only (es : List Ev) (hw : WfRecs (appended es)) (k t : Nat) :
    (Rec.commit t ∉ durable (es.take k) →
        recover (crash (run (es.take k))) = replay [] ((durable (es.take k)).filter (fun r => r.tid != t))) ∧
    (Rec.commit t ∈ durable (es.take k) →
        ∃ rest, appended es = durable (es.take k) ++ rest ∧ ∀ r ∈ rest, r.tid ≠ t) :=
  ⟨fun hn => (recover_crash_eq_replay_durable _ (wf_appended_take hw k)).trans (only_committed_contribute _ t hn []),
   durable_commit_closed es hw k t⟩

/-- A rolled-back transaction stays a loser whatever is logged afterwards by others. -/
theorem rolled_back_is_loser (a b : List Rec) (t : Nat) (hb : ∀ r ∈ b, r.tid ≠ t) :
    isWinner (a ++ [Rec.abort t] ++ b) t = false := by
  rw [isWinner_append_right hb]
  simp [isWinner, List.foldl_append, winnerStep]

/-- Witness for the shipped defect "rollback logged as COMMIT": the rolled-back insert is redone. -/
theorem abortLoggedAsCommit_witness :
    replay [("t", [])] [Rec.op 1 (.ins "t" 1 10), Rec.commit 1] = [("t", [(1, 10)])] ∧
    replay [("t", [])] [Rec.op 1 (.ins "t" 1 10), Rec.abort 1] = [("t", [])] := by decide

/-- Witness for "checkpoint with a transaction open": once the log is truncated nothing can undo the open
    transaction's rows that the checkpoint wrote — the model refuses to truncate in that situation. -/
theorem checkpoint_keeps_log_of_open_txn :
    let s := run [Ev.append (.op 1 (.ins "t" 1 10)), Ev.checkpoint]
    s.log = [Rec.op 1 (.ins "t" 1 10)] ∧ s.stable = [] := by decide

end AxVerif.Recovery
