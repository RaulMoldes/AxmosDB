/-
  C14 — Statements issued from several threads all finish and stay correct.

  **Latches** (`Model/Latch.lean`): threads are programs over the pager lock and page latches; `parking_lot`'s fairness (a
  reader is not admitted while a writer is parked) and non-re-entrance are part of the step relation.  The theorems hold
  for ANY number of threads and any programs built from the shapes extracted from the code (`TreeOp`), over any page
  numbering: the only hypotheses are the decidable tree-shape predicates `TreeOp.wf` ("the pages named lie in the tree
  whose root is named").  What is proved is about this abstraction of the acquisition order — not about the Rust.

  * `pager_lock_never_held_across_latch_wait`  no thread ever waits for a latch while it holds the pager lock
  * `readers_only_deadlock_free`                scans (also of one-page tables), searches, descents: never a deadlock
  * `writers_only_deadlock_free`                any inserts/updates/removes with any rebalancing on any trees: never
  * `reader_writer_deadlock_free`               readers ∥ writers, any mix, any trees, any rebalancing order: never (for the
                                                latch protocol of the repaired code, `Defects.none`).  In particular the
                                                suspected "leaf scan vs. sibling rebalance" cycle does not exist: the scan
                                                keeps the root read-latched, the writer needs the root write-latched first.
  * `reader_writer_deadlock_free_any_defects`   the same whatever the read latch, for well-formed shapes; with the shipped
                                                (queueing) read latch no scan is well-formed — a scan latches the root
                                                through two tree objects — so this covers lookups, descents and writes
  * `readLatchQueuesBehindWriter_witness`       shipped read latch: a scan of a ONE-page table ∥ one writer of that table
                                                reaches a state with no enabled step (the second read latch of the scanning
                                                thread queues behind the parked writer).  Observed on the real code and
                                                repaired (`fix:` ReadLatch::new uses read_arc_recursive).
  * `flush_writer_deadlock_witness`             `Database::flush` ∥ one writer: `Pager::flush` write-latches pages while it
                                                holds the pager lock (not one of the statement shapes).

  **Histories** (`Model/Serial.lean`): `checkSerialSI_sound`, `checkSerial_sound` — what the judge's `ok` certifies.

  **`begin` is one step** (`Model/Coord.lean`): `begin_atomic_snapshots_sound` — with the atomic `begin` a snapshot counts
  only committed transactions as committed; `beginNotAtomic_witness` — with the shipped three-step `begin` it does not.

  **Statements on different tables** (`Lemmas/NonInterf.lean`, over the abstract machine of `Model/Db.lean`):
  `statements_on_other_tables_do_not_interfere`, `statements_on_different_tables_commute`.
-/
import AxVerif.Lemmas.Latch
import AxVerif.Lemmas.Coord
import AxVerif.Lemmas.NonInterf
import AxVerif.Model.Serial
import AxVerif.Thm.C04
namespace AxVerif.C14
open AxVerif.Latch

/-- the operations a statement performs on B+trees, as extracted from the code (see `Model/Latch.lean`) -/
inductive TreeOp where
  /-- `get_left_most` / `get_right_most` / `height`: walk down releasing every page before the next is fetched -/
  | descent (pages : List Nat)
  /-- sequential scan: left-most descent, then iterator (root kept read-latched) over `leaves` = (page, rows read) -/
  | scan (root : Nat) (path : List Nat) (leaves : List (Nat × Nat))
  /-- point lookup with a read accessor: root → leaf, all kept until the end -/
  | search (root : Nat) (path : List Nat)
  /-- insert / update / remove: root → leaf write-latched and kept, then any rebalancing steps, then release -/
  | write (root : Nat) (path : List Nat) (bal : List BalStep)

def TreeOp.instrs : TreeOp → List Instr
  | .descent ps => readerDescent ps
  | .scan r path leaves => readerScan r path leaves
  | .search r path => readerSearch r path
  | .write r path bal => writerOp r path bal

def TreeOp.isRead : TreeOp → Bool
  | .write _ _ _ => false
  | _ => true

def TreeOp.isWrite : TreeOp → Bool
  | .write _ _ _ => true
  | _ => false

/-- tree-shape hypothesis: the named pages belong to the tree of the named root (`rootOf p` = root of `p`'s tree); with
    the shipped read latch (`D.readLatchQueuesBehindWriter`) no scan is well-formed (it latches the root twice) -/
def TreeOp.wf (D : Defects) (rootOf : Nat → Nat) : TreeOp → Bool
  | .descent _ => true
  | .scan r path leaves => leavesIn D rootOf r path leaves
  | .search r path => pathIn rootOf r path
  | .write r path bal => writeIn rootOf r path bal

/-- the program of a client thread / pool worker: its tree operations one after the other -/
def threadProg (ops : List TreeOp) : List Instr := (ops.map TreeOp.instrs).flatten

theorem pagerOk_instrs (op : TreeOp) : pagerOk false op.instrs = true := by
  cases op with
  | descent ps => exact (pagerOk_modular .R).readerDescent_ok ps
  | scan r path leaves => exact (pagerOk_modular .R).readerScan_ok r path leaves
  | search r path => exact (pagerOk_modular .R).readerSearch_ok r path
  | write r path bal => exact (pagerOk_modular .W).writerOp_ok r path bal

/-- **Structural**: in every program shape the pager lock is released by the instruction that follows its acquisition -/
theorem shapes_release_pager_before_waiting : ∀ ops : List TreeOp, pagerOk false (threadProg ops) = true
  | [] => rfl
  | op :: ops => pagerOk_append (pagerOk_instrs op) (shapes_release_pager_before_waiting ops)

/-- **The pager lock is never held across a latch wait.**  In every reachable state of any number of threads running any
    tree operations, a thread that is at a latch request (parked or about to park) does not hold the pager lock. -/
theorem pager_lock_never_held_across_latch_wait (D : Defects) (threads : List (List TreeOp)) (s : State)
    (hr : Reachable D (init (threads.map threadProg)) s) (t : Thread) (ht : t ∈ s) :
    (t.waiting = true → t.pager = false) ∧ (∀ p m rest, t.prog = .acq p m :: rest → t.pager = false) := by
  obtain ⟨hp, hw⟩ := reach_pagerOk (List.forall_mem_map.2 fun ops _ => shapes_release_pager_before_waiting ops) hr t ht
  have hacq : ∀ p m rest, t.prog = .acq p m :: rest → t.pager = false := by
    intro p m rest hprog
    rw [hprog] at hp
    cases hpg : t.pager with
    | false => rfl
    | true => rw [hpg] at hp; cases hp
  exact ⟨fun hwt => let ⟨p, m, rest, hprog⟩ := hw hwt; hacq p m rest hprog, hacq⟩

theorem noW_instrs (op : TreeOp) (h : op.isRead = true) : noW op.instrs = true := by
  cases op with
  | descent ps => exact noW_modular.readerDescent_ok ps
  | scan r path leaves => exact noW_modular.readerScan_ok r path leaves
  | search r path => exact noW_modular.readerSearch_ok r path
  | write r path bal => cases h

theorem noW_threadProg : ∀ ops : List TreeOp, (∀ op ∈ ops, op.isRead = true) → noW (threadProg ops) = true
  | [], _ => rfl
  | op :: ops, h =>
    noW_append (noW_instrs op (h op List.mem_cons_self)) (noW_threadProg ops fun o ho => h o (List.mem_cons_of_mem _ ho))

/-- **Readers only.**  Any number of threads that only read (scans — of one-page tables too —, point lookups, descents)
    on any trees: every reachable state in which some thread has work left has an enabled step. -/
theorem readers_only_deadlock_free (D : Defects) (threads : List (List TreeOp))
    (hread : ∀ th ∈ threads, ∀ op ∈ th, op.isRead = true)
    (s : State) (hr : Reachable D (init (threads.map threadProg)) s) : deadlocked D s = false :=
  readers_only_no_deadlock (List.forall_mem_map.2 fun ops _ => shapes_release_pager_before_waiting ops)
    (List.forall_mem_map.2 fun ops hops => noW_threadProg ops (hread ops hops)) hr

theorem guarded_instrs {D : Defects} {rootOf : Nat → Nat} (op : TreeOp) (h : op.wf D rootOf = true) {rest : List Instr}
    (hrest : Guarded D rootOf [] rest) : Guarded D rootOf [] (op.instrs ++ rest) := by
  cases op with
  | descent ps => exact guarded_readerDescent hrest fun _ _ => acqOk_nil (.inr rfl)
  | scan r path leaves => exact guarded_readerScan h hrest
  | search r path => exact guarded_readerSearch h hrest
  | write r path bal => exact guarded_writerOp h hrest

theorem guarded_threadProg {D : Defects} {rootOf : Nat → Nat} : ∀ ops : List TreeOp, (∀ op ∈ ops, op.wf D rootOf = true) →
    Guarded D rootOf [] (threadProg ops)
  | [], _ => guarded_nil.2 rfl
  | op :: ops, h =>
    guarded_instrs op (h op List.mem_cons_self) (guarded_threadProg ops fun o ho => h o (List.mem_cons_of_mem _ ho))

/-- **Readers and writers together, whatever the read latch.**  Any number of threads, any mix of scans, lookups,
    descents and writes with any rebalancing, on any trees, provided the shapes are well-formed — which with the shipped
    read latch excludes scans.  (The order in which a rebalancing writer visits siblings, the
    parent's neighbours and frontier pages is arbitrary here; it does not matter because every one of those latches is
    taken under the write latch of the root, which a scan's iterator holds for reading during its whole life.) -/
theorem reader_writer_deadlock_free_any_defects (D : Defects) (rootOf : Nat → Nat) (threads : List (List TreeOp))
    (hwf : ∀ th ∈ threads, ∀ op ∈ th, op.wf D rootOf = true)
    (s : State) (hr : Reachable D (init (threads.map threadProg)) s) : deadlocked D s = false :=
  guarded_no_deadlock (rootOf := rootOf) (List.forall_mem_map.2 fun ops _ => shapes_release_pager_before_waiting ops)
    (List.forall_mem_map.2 fun ops hops => guarded_threadProg ops (hwf ops hops)) hr

/-- **Readers and writers together** under the latch protocol of the repaired code: every reachable state in which some
    thread has work left has an enabled step — any number of threads, any trees (one-page tables included). -/
theorem reader_writer_deadlock_free (rootOf : Nat → Nat) (threads : List (List TreeOp))
    (hwf : ∀ th ∈ threads, ∀ op ∈ th, op.wf Defects.none rootOf = true)
    (s : State) (hr : Reachable Defects.none (init (threads.map threadProg)) s) : deadlocked Defects.none s = false :=
  reader_writer_deadlock_free_any_defects Defects.none rootOf threads hwf s hr

/-- **Writers only.**  Any number of threads doing inserts / updates / removes with any rebalancing on any trees. -/
theorem writers_only_deadlock_free (D : Defects) (rootOf : Nat → Nat) (threads : List (List TreeOp))
    (hw : ∀ th ∈ threads, ∀ op ∈ th, op.isWrite = true ∧ op.wf D rootOf = true)
    (s : State) (hr : Reachable D (init (threads.map threadProg)) s) : deadlocked D s = false :=
  reader_writer_deadlock_free_any_defects D rootOf threads (fun th hth op hop => (hw th hth op hop).2) s hr

/-- a two-level tree: root 1; leaves 2, 3, 4; 5 a fresh page -/
def exRoot : Nat → Nat := fun p => if p ≤ 5 then 1 else p

/-- a scan of all three leaves -/
def exScan : TreeOp := .scan 1 [2] [(2, 3), (3, 3), (4, 2)]

/-- a writer that descends to leaf 3, borrows from the LEFT sibling 2, then loads siblings 2, 3, 4 left to right,
    allocates page 5 and frees page 4 — next to `exScan` the interleaving suspected of a hold-and-wait cycle -/
def exWrite : TreeOp := .write 1 [3] [.touch 2, .touch 4, .touch 2, .touch 3, .touch 4, .alloc, .touch 5, .free 4]

example : exScan.wf Defects.none exRoot = true ∧ exWrite.wf Defects.none exRoot = true ∧
    exWrite.wf { readLatchQueuesBehindWriter := true } exRoot = true ∧ (TreeOp.search 1 [3]).wf Defects.none exRoot = true := by decide

/-- a scan of a one-page table is well-formed under the repaired latch protocol -/
example : (TreeOp.scan 1 [] [(1, 4)]).wf Defects.none (fun _ => 1) = true := by decide

theorem leaf_scan_vs_sibling_rebalance_no_deadlock (s : State)
    (hr : Reachable Defects.none (init ([[exScan, .search 1 [3]], [exWrite], [exWrite, exScan]].map threadProg)) s) :
    deadlocked Defects.none s = false :=
  reader_writer_deadlock_free exRoot _ (by decide) s hr

theorem reachable_runSched {D : Defects} {s0 : State} (sched : List Nat) (s : State) (h : Reachable D s0 s) :
    Reachable D s0 (runSched D s sched) := by
  fun_induction runSched D s sched with
  | case1 s => exact h
  | case2 s i is hs => exact h
  | case3 s i is s' hs ih => exact ih (Reachable.step h hs)

/-- one scan of a one-page table (root = leaf = page 1, one row) and one writer of the same table -/
def rootScanProgs : List (List Instr) := [threadProg [.scan 1 [] [(1, 1)]], threadProg [.write 1 [] []]]

/-- reader: descent, iterator (root read-latched); writer: parks for the write latch; reader: reads its row through a
    second accessor — parks behind the writer -/
def rootScanSchedule : List Nat := [0, 0, 0, 0, 0, 0, 0, 0, 0, 1, 1, 1, 0, 0, 0]

/-- **Witness of the shipped defect.**  With a read latch that queues behind a parked writer, a scan of a one-page table
    next to one writer of that table reaches a state with no enabled step. -/
theorem readLatchQueuesBehindWriter_witness :
    ∃ s, Reachable { readLatchQueuesBehindWriter := true } (init rootScanProgs) s ∧
      deadlocked { readLatchQueuesBehindWriter := true } s = true :=
  ⟨runSched _ (init rootScanProgs) rootScanSchedule, reachable_runSched _ _ Reachable.init, by decide +kernel⟩

/-- the same two threads under the repaired protocol never deadlock (instance of `reader_writer_deadlock_free`) -/
theorem rootScan_repaired_no_deadlock (s : State) (hr : Reachable Defects.none (init rootScanProgs) s) :
    deadlocked Defects.none s = false :=
  reader_writer_deadlock_free (fun _ => 1) [[.scan 1 [] [(1, 1)]], [.write 1 [] []]] (by decide) s hr

/-- the scan of a one-page table is exactly what `TreeOp.wf` excludes under the defect -/
example : (TreeOp.scan 1 [] [(1, 1)]).wf { readLatchQueuesBehindWriter := true } (fun _ => 1) = false := by decide

/-- `Pager::flush` is not one of the shapes: it waits for latches while it holds the pager lock -/
theorem flushProg_holds_pager_while_waiting : pagerOk false (flushProg [7]) = false := by decide

def flushProgs : List (List Instr) := [threadProg [.write 7 [8] []], flushProg [7, 8]]

/-- writer: latches page 7, is about to fetch page 8; flusher: takes the pager lock, parks on page 7; writer: waits for the pager lock -/
def flushSchedule : List Nat := [0, 0, 0, 0, 1, 1]

/-- **Witness.**  `Database::flush` next to one writer reaches a state with no enabled step. -/
theorem flush_writer_deadlock_witness :
    ∃ s, Reachable Defects.none (init flushProgs) s ∧ deadlocked Defects.none s = true :=
  ⟨runSched _ (init flushProgs) flushSchedule, reachable_runSched _ _ Reachable.init, by decide +kernel⟩

open AxVerif.Db AxVerif.Db.MT

theorem popThread_spec : ∀ (p : Pending) (i : Nat) (e : Ev) (p' : Pending), popThread p i = some (e, p') →
    ∃ es, p[i]? = some (e :: es) ∧ p' = p.set i es := by
  intro p i
  fun_induction popThread p i with
  | case3 x xs rest =>
    intro e p' h
    cases h
    exact ⟨xs, rfl, rfl⟩
  | case5 evs rest i e1 rest' hr ih =>
    intro e p' h
    cases h
    obtain ⟨es, h1, h2⟩ := ih e1 rest' hr
    exact ⟨es, h1, congrArg (evs :: ·) h2⟩
  | _ => exact fun _ _ => nofun

/-- `lin` is an interleaving of the threads' event sequences: each event is the next pending one of some thread, and
    nothing is left over -/
inductive Interleaves : Pending → List Ev → Prop
  | done {p : Pending} : (∀ evs ∈ p, evs = []) → Interleaves p []
  | next {p p' : Pending} {i : Nat} {e : Ev} {lin : List Ev} :
      popThread p i = some (e, p') → Interleaves p' lin → Interleaves p (e :: lin)

theorem interleaves_of_replay (sched : List Nat) (p : Pending) : ∀ (lin : List Ev),
    replay p sched = some lin → Interleaves p lin := by
  fun_induction replay p sched with
  | case1 p hall =>
    intro lin h
    cases h
    exact Interleaves.done fun evs hevs => List.isEmpty_iff.1 (List.all_eq_true.1 hall evs hevs)
  | case5 p i sched e p' hp l hr ih =>
    intro lin h
    cases h
    exact Interleaves.next hp (ih l hr)
  | _ => exact fun _ => nofun
/-- ticket order as a property of the linearisation: whenever an event is placed before another one, the call of the
    later one had not returned before the call of the earlier one was issued -/
def TicketOrder (lin : List Ev) : Prop := lin.Pairwise (fun a b => ¬ b.t1 < a.t0)

theorem ticketOrder_of_rtOk (lin : List Ev) (h : rtOk lin = true) : TicketOrder lin := by
  induction lin with
  | nil => exact List.Pairwise.nil
  | cons e rest ih =>
    obtain ⟨h1, h2⟩ := Bool.and_eq_true_iff.1 h
    refine List.Pairwise.cons (fun b hb => ?_) (ih h2)
    exact of_decide_eq_false ((Bool.not_eq_true' _).mp (List.all_eq_true.1 h1 b hb))

/-- event by event: the answer given renders to the answer observed (where one was observed) -/
inductive AllAnswered (render : Render) : List Ev → List Out → Prop
  | nil : AllAnswered render [] []
  | cons {e : Ev} {o : Out} {es : List Ev} {os : List Out} :
      (∀ x, e.expect = some x → render o = x) → AllAnswered render es os → AllAnswered render (e :: es) (o :: os)

/-- the MVCC model (`Db.run` with no defect), run over the linearisation, gives every observed answer -/
def AnswersAs (render : Render) (cat : Catalog) (lin : List Ev) : Prop :=
  AllAnswered render lin (run Defects.none cat (lin.map (·.op))).2

theorem allAnswered_of_answersOk (render : Render) (lin : List Ev) : ∀ α : Spec.State, answersOk render α lin = true →
    AllAnswered render lin (Spec.outs α (lin.map (·.op))) := by
  induction lin with
  | nil => exact fun _ _ => AllAnswered.nil
  | cons e rest ih =>
    intro α h
    obtain ⟨h1, h2⟩ := Bool.and_eq_true_iff.1 h
    refine AllAnswered.cons (fun x hx => ?_) (ih _ h2)
    rw [hx] at h1
    exact (beq_iff_eq.1 h1).symm

theorem answersAs_of_answersOk (render : Render) (cat : Catalog) (lin : List Ev)
    (h : answersOk render (Spec.State.init cat) lin = true) : AnswersAs render cat lin := by
  unfold AnswersAs
  rw [C04.read_is_snapshot, spec_run_outs]
  exact allAnswered_of_answersOk render lin _ h

/-- a linearisation of the observation: interleaving of the threads' own orders that respects the ticket order -/
def Linearises (p : Pending) (lin : List Ev) : Prop := Interleaves p lin ∧ TicketOrder lin

/-- **Soundness of the history checker.**  If `checkSerialSI` accepts the observed calls `p` (per thread, in program
    order, with tickets and answers), then there is a linearisation of them — every thread's order and the ticket order
    kept — on which the MVCC model gives every observed answer, and (by `C04.checkSI_sound`) that history is explained
    by the MVCC model and is snapshot-isolated: every read returned committed-at-begin ⊕ own writes, every commit was
    decided by first-committer-wins.  The search budget plays no role in what acceptance means. -/
theorem checkSerialSI_sound (render : Render) (cat : Catalog) (budget : Nat) (p : Pending)
    (h : checkSerialSI render cat budget p = true) :
    ∃ lin, Linearises p lin ∧ AnswersAs render cat lin ∧
      ∃ hist, C04.Explains cat hist (obsOf cat lin) ∧ C04.SnapshotIsolated cat hist := by
  unfold checkSerialSI at h
  cases hs : findSchedule render cat budget p with
  | none => simp [hs] at h
  | some sched =>
    simp only [hs] at h
    unfold verify at h
    cases hr : replay p sched with
    | none => simp [hr] at h
    | some lin =>
      simp only [hr, Bool.and_eq_true] at h
      obtain ⟨⟨hrt, hans⟩, hsi⟩ := h
      exact ⟨lin, ⟨interleaves_of_replay sched p lin hr, ticketOrder_of_rtOk lin hrt⟩,
        answersAs_of_answersOk render cat lin hans, C04.checkSI_sound cat (obsOf cat lin) hsi⟩

/-- the events of every transaction are contiguous: the linearisation is a sequence of transaction blocks -/
def Serial (lin : List Ev) : Prop :=
  ∃ blocks : List (String × List Ev), lin = (blocks.map (·.2)).flatten ∧
    (∀ b ∈ blocks, ∀ e ∈ b.2, e.txn = b.1) ∧ (blocks.map (·.1)).Nodup

theorem runsOf_flatten (lin : List Ev) : ((runsOf lin).map (·.2)).flatten = lin := by
  fun_induction runsOf lin with
  | case1 => rfl
  | case2 e rest n evs more hr hn ih => rw [hr] at ih; exact congrArg (e :: ·) ih
  | case3 e rest n evs more hr hn ih => rw [hr] at ih; exact congrArg (e :: ·) ih
  | case4 e rest hr ih => rw [hr] at ih; exact congrArg (e :: ·) ih

theorem runsOf_txn (lin : List Ev) : ∀ b ∈ runsOf lin, ∀ e ∈ b.2, e.txn = b.1 := by
  fun_induction runsOf lin with
  | case1 => exact fun _ hb => nomatch hb
  | case2 x rest n evs more hr hn ih =>
    rw [hr] at ih
    intro b hb e he
    rcases List.mem_cons.1 hb with rfl | hb
    · rcases List.mem_cons.1 he with rfl | he
      · exact (beq_iff_eq.1 hn).symm
      · exact ih _ List.mem_cons_self e he
    · exact ih b (List.mem_cons_of_mem _ hb) e he
  | case3 x rest n evs more hr hn ih =>
    rw [hr] at ih
    intro b hb
    rcases List.mem_cons.1 hb with rfl | hb
    · exact fun e he => List.eq_of_mem_singleton he ▸ rfl
    · exact ih b hb
  | case4 x rest hr ih =>
    intro b hb
    exact List.eq_of_mem_singleton hb ▸ fun e he => List.eq_of_mem_singleton he ▸ rfl

theorem nodup_of_nodupStr (xs : List String) (h : nodupStr xs = true) : xs.Nodup := by
  induction xs with
  | nil => exact List.nodup_nil
  | cons x xs ih =>
    simp only [nodupStr, Bool.and_eq_true, Bool.not_eq_true', List.contains_eq_mem, decide_eq_false_iff_not] at h
    exact List.nodup_cons.2 ⟨h.1, ih h.2⟩

theorem serial_of_serialB (lin : List Ev) (h : serialB lin = true) : Serial lin :=
  ⟨runsOf lin, (runsOf_flatten lin).symm, runsOf_txn lin, nodup_of_nodupStr _ h⟩

/-- **Serial certification.**  If `checkSerial` accepts, the same per-thread event sequences can be scheduled one
    transaction at a time (`Serial`) such that the MVCC model still gives every observed answer — including the final
    contents of every table, which the harness reads at the end: the run is equivalent to a serial execution of its
    transactions, and the final database is the one that serial execution produces. -/
theorem checkSerial_sound (render : Render) (cat : Catalog) (budget : Nat) (p : Pending)
    (h : checkSerial render cat budget p = true) :
    ∃ lin, Interleaves p lin ∧ Serial lin ∧ AnswersAs render cat lin ∧
      ∃ hist, C04.Explains cat hist (obsOf cat lin) ∧ C04.SnapshotIsolated cat hist := by
  unfold checkSerial at h
  cases hs : findSchedule render cat budget p with
  | none => simp [hs] at h
  | some sched =>
    simp only [hs] at h
    unfold verifySerial at h
    cases hr : replay p (serialSchedule p sched) with
    | none => simp [hr] at h
    | some lin =>
      simp only [hr, Bool.and_eq_true] at h
      obtain ⟨⟨hser, hans⟩, hsi⟩ := h
      exact ⟨lin, interleaves_of_replay _ p lin hr, serial_of_serialB lin hser,
        answersAs_of_answersOk render cat lin hans, C04.checkSI_sound cat (obsOf cat lin) hsi⟩

def stmtTable : Stmt → String
  | .sel t _ => t | .ins t _ => t | .upd t _ _ _ _ => t | .del t _ => t

def evTable (e : Ev) : Option String :=
  match e.op with
  | .exec _ st => some (stmtTable st)
  | _ => none

def touched (evs : List Ev) : List String := evs.filterMap evTable

def written (evs : List Ev) : List String := evs.filterMap (fun e => if e.wrote then evTable e else none)

/-- no table is touched by two threads that both write -/
def ConflictFree (p : Pending) : Prop :=
  ∀ (i j : Nat) (evs evs' : List Ev), i ≠ j → p[i]? = some evs → p[j]? = some evs' → written evs ≠ [] → written evs' ≠ [] →
    ∀ t ∈ touched evs, t ∉ touched evs'

/-- **Not claimed, only stated**: every observation of a conflict-free case (no table touched by two writing
    threads) that `checkSerialSI` accepts is also accepted by `checkSerial`.  It is what one expects of snapshot isolation
    without write skew; it is not proved here — the judge *decides* it per run instead (`bad not-serial`). -/
def serial_of_conflict_free_statement : Prop :=
  ∀ (render : Render) (cat : Catalog) (budget : Nat) (p : Pending), ConflictFree p →
    checkSerialSI render cat budget p = true → checkSerial render cat budget p = true

def exCat : Catalog := [⟨"t", [⟨"k", .big, false, false⟩], []⟩]

def exRender : Render := fun o =>
  match o with
  | .ok => "ok"
  | .stmt (.okN n) => s!"ok{n}"
  | .stmt (.rows rs) => s!"rows{rs.length}"
  | _ => "?"

/-- a two-thread observation the checkers accept: thread 0 inserts a row in its own transaction, thread 1 reads the
    table before and after; tickets leave the order of the first read and the commit open -/
def exPending : Pending :=
  [[⟨1, 2, "a", .begin "a", some "ok", false, false, false⟩,
    ⟨3, 6, "a", .exec "a" (.ins "t" [[.int 1]]), some "ok1", false, true, false⟩,
    ⟨7, 10, "a", .commit "a", some "ok", true, false, true⟩],
   [⟨4, 5, "b", .begin "b", none, false, false, false⟩,
    ⟨4, 5, "b", .exec "b" (.sel "t" none), some "rows0", false, false, false⟩,
    ⟨4, 5, "b", .commit "b", some "ok", true, false, true⟩,
    ⟨8, 9, "c", .begin "c", none, false, false, false⟩,
    ⟨8, 9, "c", .exec "c" (.sel "t" none), some "rows1", false, false, false⟩,
    ⟨8, 9, "c", .commit "c", some "ok", true, false, true⟩]]

example : checkSerialSI exRender exCat 1000 exPending = true := by decide +kernel
example : checkSerial exRender exCat 1000 exPending = true := by decide +kernel

open AxVerif.Coord in
/-- **Snapshots are sound when `begin` is atomic** (the repaired coordinator).  In every reachable state — any number of
    transactions beginning, committing and aborting in any order — whatever a snapshot counts as "committed before me"
    (`Snapshot::is_committed_before_snapshot`) is a transaction that is committed. -/
theorem begin_atomic_snapshots_sound (σ : Coord.State) (hr : Coord.Reachable Coord.Defects.none σ)
    (s : Coord.Snap) (hs : s ∈ σ.snaps) (x : Nat) (hcb : s.cb x = true) :
    Coord.statusOf σ.table x = some .committed :=
  (Coord.inv_reachable hr).sound s hs x hcb

/-- transaction 1 takes its id and is preempted; transaction 2 begins and commits; transaction 3 takes its id and its
    snapshot: 1 is not registered, hence not in the active set, and 1 ≤ xmax = 2 -/
def beginRaceOps : List Coord.Op := [.alloc, .alloc, .snap 2, .register 2, .commit 2, .alloc, .snap 3]

/-- **Witness of the shipped defect.**  With the three steps of `begin` interleavable, a snapshot is reached that counts a
    transaction as committed which has not even been registered (its rows are read while it is open: dirty read).
    Observed on the real code and repaired (`fix:` TransactionCoordinator::begin … in one step). -/
theorem beginNotAtomic_witness :
    ∃ σ, Coord.Reachable { beginNotAtomic := true } σ ∧ Coord.snapshotsSound σ = false := by
  refine ⟨Coord.runOps { beginNotAtomic := true } Coord.State.init beginRaceOps, ?_, by decide +kernel⟩
  exact Coord.reachable_runOps _ Coord.Reachable.init

/-- the same operations are impossible with the atomic `begin`: its three steps do not exist as separate operations -/
example : Coord.step Coord.Defects.none Coord.State.init .alloc = none := by decide

/-- non-trivial reachable state of the atomic coordinator: two open transactions, one committed, one aborted, and the
    snapshots are sound -/
example : Coord.snapshotsSound (Coord.runOps Coord.Defects.none Coord.State.init
    [.begin, .begin, .commit 2, .begin, .abort 1, .begin, .commit 3, .begin]) = true := by decide +kernel

open AxVerif.Db.NI in
/-- **Non-interference.**  In any history of autocommit `SELECT` / `INSERT` / `DELETE` statements, over any catalog
    (constraints included), the statements on table `a` give the same answers and leave the same rows in `a` — row ids
    included — whether the statements on the other tables are there or are replaced by `nop`s.  Answers are those of the
    MVCC machine (`Db.run` without defects), the rows those of the abstract machine it refines. -/
theorem statements_on_other_tables_do_not_interfere (cat : Catalog) (a : String) (ops : List Op)
    (hok : ops.all okOp = true) :
    answersOn a ops (run Defects.none cat ops).2 =
      answersOn a (eraseOthers a ops) (run Defects.none cat (eraseOthers a ops)).2 ∧
    proj a (Spec.run cat ops).1.committed = (Spec.run cat (eraseOthers a ops)).1.committed := by
  have h := noninterference_from a ops (Spec.State.init cat) (Spec.State.init cat) hok (inv_init cat)
    ⟨rfl, rfl, by simp [Spec.State.init, proj]⟩
  rw [C04.read_is_snapshot, C04.read_is_snapshot, spec_run_outs, spec_run_outs]
  refine ⟨h.1, ?_⟩
  simpa [Spec.run, Spec.runFrom_eq] using h.2

open AxVerif.Db.NI in
theorem okOp_erase (a : String) (ops : List Op) (h : ops.all okOp = true) : (eraseOthers a ops).all okOp = true := by
  induction ops with
  | nil => rfl
  | cons op ops ih =>
    rw [List.all_cons, Bool.and_eq_true] at h
    rw [eraseOthers_cons, List.all_cons, Bool.and_eq_true]
    refine ⟨?_, ih h.2⟩
    split
    · exact h.1
    · rfl

open AxVerif.Db.NI in
theorem answersOn_erased (a : String) (ops : List Op) (outs : List Out) :
    answersOn a (eraseOthers a ops) outs = realAnswers (eraseOthers a ops) outs := by
  induction ops generalizing outs with
  | nil => rfl
  | cons op ops ih =>
    cases outs with
    | nil => rfl
    | cons o os =>
      -- an erased operation is a statement on `a` or a `nop`
      rw [eraseOthers_cons, answersOn, realAnswers, ih os]
      by_cases ht : touches a op = true
      · rw [if_pos ht, if_pos ht, if_neg (Bool.eq_false_iff.1 (isNop_of_touches ht))]
      · rw [if_neg ht, if_neg (Bool.eq_false_iff.1 (touches_nop a))]
        exact (if_pos rfl).symm

open AxVerif.Db.NI in
/-- **The position of a statement does not matter** (catalog without constraints): removing the `nop`s from a history
    changes no answer and nothing observable of the final rows (tables and values, in order). -/
theorem nops_do_not_matter (cat : Catalog) (hp : plainCat cat = true) (ops : List Op) (hok : ops.all okOp = true) :
    realAnswers ops (Spec.run cat ops).2 = realAnswers (dropNops ops) (Spec.run cat (dropNops ops)).2 ∧
    keys (Spec.run cat ops).1.committed = keys (Spec.run cat (dropNops ops)).1.committed := by
  have h := sim_from ops (Spec.State.init cat) (Spec.State.init cat) hp hok (inv_init cat) (inv_init cat) ⟨rfl, rfl⟩
  rw [spec_run_outs, spec_run_outs]
  refine ⟨h.1, ?_⟩
  simpa [Spec.run, Spec.runFrom_eq] using h.2

open AxVerif.Db.NI in
theorem dropNops_erase_swap (a : String) (pre : List Op) (s1 s2 : Stmt) (hne : NI.stmtTable s1 ≠ NI.stmtTable s2) :
    dropNops (eraseOthers a (pre ++ [.auto s1, .auto s2])) = dropNops (eraseOthers a (pre ++ [.auto s2, .auto s1])) := by
  -- at most one of the two is a statement on `a`
  rw [dropNops_eraseOthers, dropNops_eraseOthers, List.filter_append, List.filter_append]
  congr 1
  by_cases h1 : NI.stmtTable s1 = a
  · have h2 : ¬ NI.stmtTable s2 = a := fun h => hne (h1.trans h.symm)
    simp only [List.filter_cons, touches, beq_iff_eq, h1, h2, if_true, if_false, List.filter_nil]
  · simp only [List.filter_cons, touches, beq_iff_eq, h1, if_false, List.filter_nil]

open AxVerif.Db.NI in
/-- **Statements on different tables commute** (catalog without constraints).  After any history `pre` of autocommit
    `SELECT` / `INSERT` / `DELETE` statements, executing `s1` then `s2`, or `s2` then `s1`, where the two are statements on
    different tables: for every table `a`, the statements on `a` (those of `pre`, and `s1` or `s2` if it is on `a`) give the
    same answers in both orders, and `a` ends up with the same rows (values, in the same order) in both orders. -/
theorem statements_on_different_tables_commute (cat : Catalog) (hp : plainCat cat = true) (pre : List Op)
    (hpre : pre.all okOp = true) (s1 s2 : Stmt) (h1 : simpleStmt s1 = true) (h2 : simpleStmt s2 = true)
    (hne : NI.stmtTable s1 ≠ NI.stmtTable s2) (a : String) :
    answersOn a (pre ++ [.auto s1, .auto s2]) (run Defects.none cat (pre ++ [.auto s1, .auto s2])).2 =
      answersOn a (pre ++ [.auto s2, .auto s1]) (run Defects.none cat (pre ++ [.auto s2, .auto s1])).2 ∧
    keys (proj a (Spec.run cat (pre ++ [.auto s1, .auto s2])).1.committed) =
      keys (proj a (Spec.run cat (pre ++ [.auto s2, .auto s1])).1.committed) := by
  have hok : ∀ s s' : Stmt, simpleStmt s = true → simpleStmt s' = true →
      (pre ++ [Op.auto s, Op.auto s']).all okOp = true := by
    intro s s' hs hs'
    rw [List.all_append, hpre]
    show (simpleStmt s && (simpleStmt s' && true)) = true
    rw [hs, hs']
    rfl
  have hok12 := hok s1 s2 h1 h2
  have hok21 := hok s2 s1 h2 h1
  obtain ⟨a12, r12⟩ := statements_on_other_tables_do_not_interfere cat a _ hok12
  obtain ⟨a21, r21⟩ := statements_on_other_tables_do_not_interfere cat a _ hok21
  obtain ⟨n12, k12⟩ := nops_do_not_matter cat hp _ (okOp_erase a _ hok12)
  obtain ⟨n21, k21⟩ := nops_do_not_matter cat hp _ (okOp_erase a _ hok21)
  have hd := dropNops_erase_swap a pre s1 s2 hne
  constructor
  · rw [a12, a21, C04.read_is_snapshot, C04.read_is_snapshot, answersOn_erased, answersOn_erased, n12, n21, hd]
  · rw [r12, r21, k12, k21, hd]

/-- a non-trivial instance: two tables, a history that fills both, then an `INSERT` into one and a `DELETE` on the other -/
example : NI.plainCat [⟨"t", [⟨"k", .big, false, false⟩], []⟩, ⟨"u", [⟨"k", .big, false, false⟩], []⟩] = true ∧
    [Op.auto (.ins "t" [[.int 1]]), .auto (.ins "u" [[.int 2], [.int 3]]), .tick].all NI.okOp = true := by decide

end AxVerif.C14
