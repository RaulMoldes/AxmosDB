/-
  C18 — Row versions decode to the right values for every snapshot.

  Property theorems about the byte-level model of `storage/tuple.rs` and of `Snapshot` (Model/Tuple.lean,
  Model/Snapshot.lean) with every defect flag off; helper lemmas are in Lemmas/Tuple*.lean.  All statements hold
  for an arbitrary `Params` satisfying `Params.Wf`; `generated_wf` instantiates them with the sizes and alignments
  extracted from the code on this run.  No bound on the number of updates or versions.  Bounded are the value columns
  that updates and vacuums can handle (fewer than 256: a delta stores column indices and their number in one byte each;
  `DeltaOk`, `history_decodes`) and the length of a text (below 2^69 bytes, the varint in front of it; `FitsKind`).

  Reading guide:  `LRow` is the logical row (newest version, older versions newest first, optional deleter),
  `specVisible s L` what snapshot `s` is entitled to see of it, `encode L` its bytes, `decodeFor s bytes` what
  `Row::from_bytes_checked_with_snapshot` computes.
-/
import AxVerif.Lemmas.Tuple
import AxVerif.Generated.Tuple
namespace AxVerif.Tuple
open AxVerif

/-- The extracted constants satisfy the side conditions (header layout xmin@0 / xmax@8 / version@16 in 24 bytes, delta
    header xmin@0 / version@8 in 16 bytes, both aligned to 8; Bool and Blob unaligned; every other alignment in
    {1,2,4,8}). -/
theorem generated_wf : Params.Wf Generated.tupleParams := by decide

/-- `is_committed_before_snapshot` as a statement: the id is not above the last committed id of the snapshot
    (0 when there is none) and is neither active nor aborted in it. -/
theorem committedBefore_iff (s : Snapshot) (t : Nat) :
    committedBefore {} s t = true ↔ t ≤ s.xmax.getD 0 ∧ t ∉ s.active ∧ t ∉ s.aborted := by
  unfold committedBefore
  -- "started after the snapshot" is `m < t` with a last committed id `m` and `0 < t` without one: `¬ t ≤ xmax.getD 0`
  cases s.xmax <;> simp [and_assoc]

/-- what a reader may see of a creator: its own work and what committed before its snapshot, nothing else -/
theorem creatorVisible_iff (s : Snapshot) (t : Nat) :
    creatorVisible {} s t = true ↔ t = s.xid ∨ (t ≤ s.xmax.getD 0 ∧ t ∉ s.active ∧ t ∉ s.aborted) := by
  simp only [creatorVisible, Bool.or_eq_true, decide_eq_true_eq, committedBefore_iff]

/-- `Snapshot::is_tuple_visible` (not used by any reader) agrees with the rule of the readers except for the reader's own
    undeleted version, which it judges by the committed-before test. -/
theorem isTupleVisible_eq (s : Snapshot) (tmin : Nat) (tmax : Option Nat) (h : tmin ≠ s.xid) :
    isTupleVisible {} s tmin tmax
      = (committedBefore {} s tmin && !(match tmax with | some x => committedBefore {} s x | none => false)) := by
  unfold isTupleVisible
  have : decide (tmin = s.xid) = false := by simp [h]
  rw [this]
  cases hc : committedBefore {} s tmin <;> cases tmax <;> simp

theorem isTupleVisible_own_undeleted (s : Snapshot) :
    isTupleVisible {} s s.xid none = committedBefore {} s s.xid := by
  unfold isTupleVisible
  cases hc : committedBefore {} s s.xid <;> simp

/-- the specification in words: nothing if the deleter is visible, otherwise the newest version with a visible creator -/
theorem specVisible_none_of_deleted (s : Snapshot) (L : LRow) (x : Nat) (hd : L.deleter = some x)
    (hx : creatorVisible {} s x = true) : specVisible {} s L = none := by
  simp [specVisible, specDeleted, hd, hx]

theorem specVisible_newest (s : Snapshot) (L : LRow) (hd : specDeleted {} s L.deleter = false)
    (hc : creatorVisible {} s L.cur.creator = true) : specVisible {} s L = some { keys := L.keys, vals := L.cur.vals } := by
  simp [specVisible, hd, firstVisible, hc]

/-- a row whose keys and values fit the schema (fixed-width values have their width, a bool is 0 or 1, a text is
    shorter than 2^69 bytes); keys are never NULL -/
def RowFits (P : Params) (sch : Schema) (row : Row) : Prop :=
  CellsFit P sch.keys (row.keys.map some) ∧ CellsFit P sch.vals row.vals

/-- parse ∘ build = id: for every schema and every row that fits it, `TupleBuilder::build` succeeds and
    `Row::from_bytes_checked` of the result is the row — every column value and NULL flag intact. -/
theorem parse_build (P : Params) (hP : P.Wf) (sch : Schema) (row : Row) (x : Nat) (h : RowFits P sch row) (hx : x < 2 ^ 64) :
    ∃ d, build {} P sch row x = .ok d ∧ decodeLast P sch d = .ok row :=
  ⟨encMain P sch x none 0 row.keys row.vals, build_ok P sch row x,
    decodeLast_main hP sch (xmax := none) hx trivial (by decide) h.1 h.2 (At.self _)⟩

/-- `compute_initial_size` = number of bytes `build` writes. -/
theorem build_size (P : Params) (hP : P.Wf) (sch : Schema) (row : Row) (x : Nat) (h : RowFits P sch row) :
    build {} P sch row x = .ok (encMain P sch x none 0 row.keys row.vals)
      ∧ computeInitialSize P sch row = (encMain P sch x none 0 row.keys row.vals).length :=
  ⟨build_ok P sch row x, computeInitialSize_eq hP sch row x h.2.length⟩

/-- `build` produces the encoding of the freshly inserted logical row. -/
theorem build_refines (P : Params) (sch : Schema) (row : Row) (x : Nat) :
    build {} P sch row x = .ok (encode P sch (LRow.insert row.keys row.vals x)) :=
  build_encode P sch row x

/-- For every well-formed logical row — any number of versions, each update touching any subset
    of the columns, values turning NULL and back, texts growing and shrinking, with or without a deleter — and for
    every snapshot, decoding the encoded row yields exactly the version the snapshot is entitled to, or nothing. -/
theorem chain_decodes (P : Params) (hP : P.Wf) (sch : Schema) (L : LRow) (h : WfRow P sch L) (s : Snapshot) :
    decodeFor {} P sch s (encode P sch L) = .ok (specVisible {} s L) := by
  have := decodeFor_encode_append hP sch L h s [] (by rw [hP.parts.dh]; decide)
  rwa [List.append_nil] at this

/-- The same for the padded form of a tuple (`full_data`, what the log stores and recovery decodes). -/
theorem padded_decodes (P : Params) (hP : P.Wf) (sch : Schema) (L : LRow) (h : WfRow P sch L) (s : Snapshot) :
    decodeFor {} P sch s (padded P (encode P sch L)) = .ok (specVisible {} s L) := by
  apply decodeFor_encode_append hP sch L h s
  have := alignUp_lt (c := (encode P sch L).length) (a := 8) (by decide)
  rw [padTo_length, hP.parts.cella, hP.parts.dh]; omega

/-- `add_version_with` on the bytes of a row is the logical update: the new version carries the updater's id, the old
    version becomes the first delta, older deltas follow at the next aligned offset. -/
theorem addVersion_refines (P : Params) (hP : P.Wf) (sch : Schema) (L : LRow) (h : WfRow P sch L) (m : Mods) (t : Nat)
    (hm : ModsFit P sch m) :
    addVersion {} P sch (encode P sch L) m t = .ok (encode P sch (L.update t m)) :=
  addVersion_encode hP sch L h m t hm

/-- `calculate_new_tuple_size` = number of bytes `add_version_with` writes (size of the older deltas =
    what lies behind the aligned end of the main part). -/
theorem size_matches_calculate (P : Params) (hP : P.Wf) (sch : Schema) (L : LRow) (m : Mods) (t : Nat)
    (hme : m.isEmpty = false) :
    calcNewTupleSize {} P sch L.keys (applyMods m 0 L.cur.vals) L.cur.vals (changedIdx m 0 L.cur.vals)
        ((encode P sch L).drop (alignUp (encMain P sch L.cur.creator L.deleter L.cur.ver L.keys L.cur.vals).length P.dhAlign)).length
      = (encode P sch (L.update t m)).length := by
  rw [drop_encode hP sch L]
  exact calcNewTupleSize_eq hP sch L m t hme

/-- `Tuple::delete` on the bytes is the logical delete: the single delete mark names the new deleter, an existing mark
    is overwritten (see `delete` in Model/Tuple.lean; whether that is right is C03/C04's `deleteMarkSingleSlot`). -/
theorem delete_refines (P : Params) (hP : P.Wf) (sch : Schema) (L : LRow) (h : WfRow P sch L) (t : Nat) :
    delete P (encode P sch L) t = .ok (encode P sch (L.delete t)) :=
  delete_encode hP sch L h t

/-- `vaccum_with` on the bytes is the logical vacuum, and it reports the bytes it dropped. -/
theorem vacuum_refines (P : Params) (hP : P.Wf) (sch : Schema) (L : LRow) (h : WfRow P sch L) (hz : Nat) :
    vacuumWith {} P sch (encode P sch L) hz
      = .ok ((encode P sch L).length - (encode P sch (L.vacuum hz)).length, encode P sch (L.vacuum hz)) :=
  vacuum_encode hP sch L h hz

/-- well-formedness is preserved by every operation -/
theorem ops_preserve_wf (P : Params) (sch : Schema) (L : LRow) (h : WfRow P sch L) (hn : sch.vals.length < 256) :
    (∀ m t, ModsFit P sch m → t < 2 ^ 64 → WfRow P sch (L.update t m))
      ∧ (∀ t, t < 2 ^ 63 → WfRow P sch (L.delete t)) ∧ (∀ hz, WfRow P sch (L.vacuum hz)) :=
  ⟨fun m t hm ht => update_wf P sch L h m t hm ht hn, fun t ht => delete_wf P sch L h t ht, fun hz => vacuum_wf P sch L h hz⟩

/-- Logical statement: a vacuum with horizon `h` does not change what any snapshot at or above `h` is entitled to. -/
theorem vacuum_preserves_spec (s : Snapshot) (hz : Nat) (L : LRow) (ha : AtOrAbove s hz L) :
    specVisible {} s (L.vacuum hz) = specVisible {} s L :=
  specVisible_vacuum s hz L ha

/-- Byte-level statement: trimming the history of a stored row with horizon `h` never alters what a snapshot at or
    above that horizon decodes. -/
theorem vacuum_preserves (P : Params) (hP : P.Wf) (sch : Schema) (L : LRow) (h : WfRow P sch L) (hz : Nat) (s : Snapshot)
    (ha : AtOrAbove s hz L) :
    ∃ freed d', vacuumWith {} P sch (encode P sch L) hz = .ok (freed, d')
      ∧ decodeFor {} P sch s d' = decodeFor {} P sch s (encode P sch L) := by
  refine ⟨_, _, vacuum_encode hP sch L h hz, ?_⟩
  rw [chain_decodes P hP sch _ (vacuum_wf P sch L h hz) s, chain_decodes P hP sch L h s, specVisible_vacuum s hz L ha]

/-- Build a row, then apply ANY sequence of updates (any column subsets, any creators), deletes
    and vacuums (any horizons) through the byte-level operations of the code: every step succeeds, the bytes are the
    encoding of the logical row the sequence denotes, and every snapshot decodes exactly what it is entitled to. -/
theorem history_decodes (P : Params) (hP : P.Wf) (sch : Schema) (hn : sch.vals.length < 256) (row : Row) (x : Nat)
    (hr : RowFits P sch row) (hx : x < 2 ^ 64) (ops : List LOp) (hops : ∀ op, op ∈ ops → OpOk P sch op) (s : Snapshot) :
    ∃ d0 d, build {} P sch row x = .ok d0 ∧ runB {} P sch ops d0 = .ok d
      ∧ d = encode P sch (runL ops (LRow.insert row.keys row.vals x))
      ∧ decodeFor {} P sch s d = .ok (specVisible {} s (runL ops (LRow.insert row.keys row.vals x))) := by
  have hw0 := insert_wf P sch row x hr.1 hr.2 hx
  obtain ⟨hrun, hw⟩ := run_refines hP sch hn ops _ hw0 hops
  exact ⟨_, _, build_encode P sch row x, hrun, rfl, chain_decodes P hP sch _ hw s⟩

/-! ### non-vacuity of the hypotheses -/

example : let P := Generated.tupleParams
    let sch : Schema := { keys := [.biguint, .blob], vals := [.blob, .int, .bool] }
    let row : Row := { keys := [[1, 0, 0, 0, 0, 0, 0, 0], [0x61, 0x62]], vals := [some [0x78], none, some [1]] }
    let m : Mods := [(1, some [9, 0, 0, 0]), (0, none)]
    RowFits P sch row ∧ ModsFit P sch m ∧ OpOk P sch (.update 7 m) ∧ OpOk P sch (.delete 9) ∧ sch.vals.length < 256 := by
  intro P sch row m
  have hm : ModsFit P sch m := by
    intro e he
    simp only [m, List.mem_cons, List.not_mem_nil, or_false] at he
    rcases he with rfl | rfl
    · exact ⟨.int, rfl, by intro p hp; cases hp; decide⟩
    · exact ⟨.blob, rfl, by intro p hp; cases hp⟩
  exact ⟨⟨by decide, by decide⟩, hm, ⟨hm, by decide⟩, show 9 < 2 ^ 63 by decide, by decide⟩

example : let L : LRow := ((LRow.insert [[1]] [some [2]] 5).update 6 [(0, some [3])]).update 9 [(0, some [4])]
    AtOrAbove { xid := 8, xmin := 8, xmax := some 7, active := [], aborted := [] } 8 L := by
  intro L v hv hlt
  simp only [L, LRow.update, LRow.insert, List.isEmpty_cons, Bool.false_eq_true, if_false, List.map_cons, List.map_nil,
    List.mem_cons, List.not_mem_nil, or_false] at hv
  rcases hv with rfl | rfl | rfl <;> first | (exfalso; revert hlt; decide) | decide

/-! ### witnesses: each shipped defect breaks the property (model with that one flag on, constants of the code) -/

namespace Witness
def P : Params := Generated.tupleParams
def sch : Schema := { keys := [.biguint], vals := [.bigint] }
def key : Bytes := [1, 0, 0, 0, 0, 0, 0, 0]
def val (n : UInt8) : Cell := some [n, 0, 0, 0, 0, 0, 0, 0]
def setTo (n : UInt8) : Mods := [(0, val n)]
def L0 : LRow := LRow.insert [key] [val 2] 5
def rowOf (n : UInt8) : Row := { keys := [key], vals := [val n] }
/-- a reader with the given id for which everything up to `xmax` that is not in `active` has committed -/
def reader (xid xmax : Nat) (active : List Nat := []) : Snapshot :=
  { xid := xid, xmin := xid, xmax := some xmax, active := active, aborted := [] }
end Witness

open Witness in
private theorem setTo_fits (n : UInt8) : ModsFit P sch (setTo n) :=
  ModsFit.single (k := .bigint) rfl fun p hp => by cases hp; rfl

open Witness in
/-- `updateKeepsInserterXmin` (KF-C18-update-keeps-inserter-xmin): 5 inserts 2, 7 updates to 3; a reader whose
    snapshot contains 5 but not 7 is entitled to 2 and decodes 3. -/
theorem updateKeepsInserterXmin_witness :
    ∃ d, addVersion { updateKeepsInserterXmin := true } P sch (encode P sch L0) (setTo 3) 7 = .ok d
      ∧ decodeFor { updateKeepsInserterXmin := true } P sch (reader 6 5) d = .ok (some (rowOf 3))
      ∧ specVisible {} (reader 6 5) (L0.update 7 (setTo 3)) = some (rowOf 2) :=
  ⟨_, rfl, by decide +kernel, by decide +kernel⟩

open Witness in
/-- `xmaxNoneSeesAll` (KF-C18-xmax-none-sees-all): a snapshot taken before anything committed (xmax = None) counts
    transaction 5, which started later, as committed before it, and decodes its row. -/
theorem xmaxNoneSeesAll_witness :
    let s : Snapshot := { xid := 3, xmin := 3, xmax := none, active := [], aborted := [] }
    committedBefore { xmaxNoneSeesAll := true } s 5 = true ∧ committedBefore {} s 5 = false
      ∧ decodeFor { xmaxNoneSeesAll := true } P sch s (encode P sch L0) = .ok (some (rowOf 2))
      ∧ specVisible {} s L0 = none := by
  decide +kernel

open Witness in
/-- `ownDeleteWalksDeltas`: 5 inserts 2, 6 updates to 3 (both committed), the reader 7 deletes the row — and decodes
    the version before the update instead of nothing. -/
theorem ownDeleteWalksDeltas_witness :
    let L := (L0.update 6 (setTo 3)).delete 7
    decodeFor { ownDeleteWalksDeltas := true } P sch (reader 7 6) (encode P sch L) = .ok (some (rowOf 2))
      ∧ specVisible {} (reader 7 6) L = none := by
  decide +kernel

open Witness in
/-- `walkIgnoresOwnVersions`: 5 inserts 2, the reader 7 updates to 3, the still active 8 updates to 4: the reader is
    entitled to its own 3 and decodes 2. -/
theorem walkIgnoresOwnVersions_witness :
    let L := (L0.update 7 (setTo 3)).update 8 (setTo 4)
    decodeFor { walkIgnoresOwnVersions := true } P sch (reader 7 6 [8]) (encode P sch L) = .ok (some (rowOf 2))
      ∧ specVisible {} (reader 7 6 [8]) L = some (rowOf 3) := by
  decide +kernel

open Witness in
/-- `vacuumDropsHorizonVersion`: 5 inserts 2, 6 updates to 3, 9 updates to 4; reader 8 (snapshot: 5 and 6 committed,
    at horizon 8) decodes 3 — after a vacuum with horizon 8 it decodes nothing. -/
theorem vacuumDropsHorizonVersion_witness :
    let L := (L0.update 6 (setTo 3)).update 9 (setTo 4)
    ∃ freed d', vacuumWith { vacuumDropsHorizonVersion := true } P sch (encode P sch L) 8 = .ok (freed, d')
      ∧ decodeFor {} P sch (reader 8 7) d' = .ok none
      ∧ decodeFor {} P sch (reader 8 7) (encode P sch L) = .ok (some (rowOf 3)) :=
  -- Both deltas (64 bytes) go: what is left is the row without history.  The rows are well formed, so what the model
  -- without defects decodes from them is given by `chain_decodes`; only the vacuum with the flag on is evaluated.
  have hw := update_wf P sch _ (update_wf P sch L0 (insert_wf P sch (rowOf 2) 5 (by decide) (by decide) (by decide))
    _ 6 (setTo_fits 3) (by decide) (by decide)) _ 9 (setTo_fits 4) (by decide) (by decide)
  ⟨64, encode P sch { (L0.update 6 (setTo 3)).update 9 (setTo 4) with hist := [], trail := true }, by decide +kernel,
    (chain_decodes P generated_wf sch { (L0.update 6 (setTo 3)).update 9 (setTo 4) with hist := [], trail := true }
      ⟨hw.keys, hw.cur, hw.creator, hw.ver, hw.deleter, trivial⟩ (reader 8 7)).trans (congrArg Except.ok (by decide)),
    (chain_decodes P generated_wf sch ((L0.update 6 (setTo 3)).update 9 (setTo 4)) hw (reader 8 7)).trans
      (congrArg Except.ok (by decide))⟩

open Witness in
/-- `deltasCopiedUnaligned`: text column; 5 inserts "ab", 7 sets NULL, 9 sets "c". The third version is written with
    the first delta at an unaligned offset; a reader entitled to "ab" fails to decode (the code panics). -/
theorem deltasCopiedUnaligned_witness :
    let sch : Schema := { keys := [.biguint], vals := [.blob] }
    let L1 := (LRow.insert [key] [some [0x61, 0x62]] 5).update 7 [(0, none)]
    ∃ d, addVersion { deltasCopiedUnaligned := true } P sch (encode P sch L1) [(0, some [0x63])] 9 = .ok d
      ∧ decodeFor {} P sch (reader 6 5) d = .error .panic
      ∧ specVisible {} (reader 6 5) (L1.update 9 [(0, some [0x63])]) = some { keys := [key], vals := [some [0x61, 0x62]] } :=
  ⟨_, rfl, by decide +kernel, by decide +kernel⟩

open Witness in
/-- `versionOverflowPanics`: updating a row whose version counter is 255 panics instead of producing version 0. -/
theorem versionOverflowPanics_witness :
    let L : LRow := { L0 with cur := { L0.cur with ver := 255 } }
    addVersion { versionOverflowPanics := true } P sch (encode P sch L) (setTo 3) 7 = .error .panic
      ∧ addVersion {} P sch (encode P sch L) (setTo 3) 7 = .ok (encode P sch (L.update 7 (setTo 3)))
      ∧ (L.update 7 (setTo 3)).cur.ver = 0 :=
  ⟨by decide +kernel,
    addVersion_refines P generated_wf sch { L0 with cur := { L0.cur with ver := 255 } }
      ⟨by decide, by decide, by decide, by decide, trivial, trivial⟩ (setTo 3) 7 (setTo_fits 3),
    by decide⟩

open Witness in
/-- `boolWriteNeedsLastByte`: a row with a BOOLEAN column followed by another column cannot be built. -/
theorem boolWriteNeedsLastByte_witness :
    let sch : Schema := { keys := [.biguint], vals := [.bool, .bigint] }
    let row : Row := { keys := [key], vals := [some [1], val 5] }
    build { boolWriteNeedsLastByte := true } P sch row 5 = .error .panic
      ∧ (∃ d, build {} P sch row 5 = .ok d ∧ decodeLast P sch d = .ok row) :=
  ⟨by decide +kernel, parse_build P generated_wf _ _ 5 ⟨by decide, by decide⟩ (by decide)⟩

open Witness in
/-- `paddedWalkPanics`: text column; 5 inserts "ab", 7 updates to "c"; on the padded form (as logged) a reader that
    sees neither version walks past the last delta and panics instead of decoding nothing. -/
theorem paddedWalkPanics_witness :
    let sch : Schema := { keys := [.biguint], vals := [.blob] }
    let L := (LRow.insert [key] [some [0x61, 0x62]] 5).update 7 [(0, some [0x63])]
    decodeFor { paddedWalkPanics := true } P sch (reader 4 3) (padded P (encode P sch L)) = .error .panic
      ∧ decodeFor {} P sch (reader 4 3) (padded P (encode P sch L)) = .ok none := by
  decide +kernel

end AxVerif.Tuple
