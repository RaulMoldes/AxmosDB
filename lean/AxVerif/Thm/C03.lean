/-
  C03 — ROLLBACK, a failed statement or a failed batch leaves no effects.

  Property theorems for `Defects.none`, for EVERY history.  They rest on the refinement (`runFrom_ok` in
  `Lemmas/DbSim.lean`, stated as `C04.read_is_snapshot`: the MVCC machine produces the outputs of the abstract machine
  `Db.Spec`, in which a rolled-back transaction never touches the committed database).
-/
import AxVerif.Lemmas.DbHist
namespace AxVerif.Db.C03
open AxVerif.Db

def catT : Catalog := [{ name := "t", cols := [⟨"k", .big, false, false⟩, ⟨"v", .int, false, false⟩] }]
def catU : Catalog := [{ name := "u", cols := [⟨"k", .big, false, true⟩, ⟨"v", .int, true, false⟩] }]

def pre : List Op := [.tick, .tick, .auto (.ins "t" [[.int 1, .int 10]])]
def preU : List Op := [.tick, .tick, .auto (.ins "u" [[.int 1, .int 10]])]

/-- a rolled-back UPDATE stays visible to every later transaction (what `test_session_rollback_updates` asserts) -/
theorem updateKeepsInserterXmin_witness :
    (run { updateKeepsInserterXmin := true } catT
      (pre ++ [.begin "s1", .exec "s1" (.upd "t" "v" false (.int 999) none), .rollback "s1", .auto (.sel "t" none)])).2
    ≠ (Spec.run catT
      (pre ++ [.begin "s1", .exec "s1" (.upd "t" "v" false (.int 999) none), .rollback "s1", .auto (.sel "t" none)])).2 := by
  decide +kernel

/-- after a rolled-back DELETE, a later DELETE of the same row has no effect -/
theorem deleteKeepsStaleXmax_witness :
    (run { deleteKeepsStaleXmax := true } catT
      (pre ++ [.begin "s1", .exec "s1" (.del "t" none), .rollback "s1", .auto (.del "t" none), .auto (.sel "t" none)])).2
    ≠ (Spec.run catT
      (pre ++ [.begin "s1", .exec "s1" (.del "t" none), .rollback "s1", .auto (.del "t" none), .auto (.sel "t" none)])).2 := by
  decide +kernel

/-- a multi-row INSERT failing on its last row keeps the first rows, and they are committed with the session -/
theorem stmtNotAtomicInSession_witness :
    (run { stmtNotAtomicInSession := true } catU
      (preU ++ [.begin "s1", .exec "s1" (.ins "u" [[.int 2, .int 20], [.int 1, .int 30]]), .commit "s1", .auto (.sel "u" none)])).2
    ≠ (Spec.run catU
      (preU ++ [.begin "s1", .exec "s1" (.ins "u" [[.int 2, .int 20], [.int 1, .int 30]]), .commit "s1", .auto (.sel "u" none)])).2 := by
  decide +kernel

theorem run_final (cat : Catalog) (ops : List Op) :
    (run Defects.none cat ops).1 = finalM D0 (State.init cat) ops := run_fst cat ops

/-- **Abort erases (store level).**  In every reachable state, for a transaction `tid` that is aborted (rolled back,
    dropped, refused at commit) or still open: the snapshot of every other transaction, whenever it was or will be
    taken, reads the same from the store as from the store with every version and delete mark of `tid` physically
    removed. -/
theorem abort_erases_store (cat : Catalog) (ops : List Op) (tid tid' : Nat) (t t' : Txn)
    (ht : (run Defects.none cat ops).1.txns[tid]? = some t) (hnc : t.status ≠ .committed)
    (ht' : (run Defects.none cat ops).1.txns[tid']? = some t') (hne : tid' ≠ tid) :
    view Defects.none t'.snap (eraseTxn tid (run Defects.none cat ops).1.rows) =
      view Defects.none t'.snap (run Defects.none cat ops).1.rows := by
  exact view_eraseTxn _ _ _
    (other_not_sees _ (reach_run cat ops).core.cinv tid tid' t' (not_isCommitted ht hnc) ht' hne)

theorem abort_erases_store_fresh (cat : Catalog) (ops : List Op) (tid : Nat) (t : Txn)
    (ht : (run Defects.none cat ops).1.txns[tid]? = some t) (hnc : t.status ≠ .committed) :
    view Defects.none ((run Defects.none cat ops).1.freshSnap Defects.none) (eraseTxn tid (run Defects.none cat ops).1.rows) =
      view Defects.none ((run Defects.none cat ops).1.freshSnap Defects.none) (run Defects.none cat ops).1.rows := by
  exact view_eraseTxn _ _ _
    (fresh_not_sees _ (reach_run cat ops).core.cinv tid (getElem?_lt ht) (not_isCommitted ht hnc))

/-- the general history-level statement: the operations of ONE transaction that does not commit (from its `begin`
    to its rollback / drop) replaced by `nop` give every other operation the same output, also those of later —
    possibly committing — transactions of the same session. -/
def abort_erases_statement : Prop :=
  ∀ (cat : Catalog) (pre seg post : List Op) (s : String),
    lookup s (finalM Defects.none (State.init cat) pre).sessions = none →
    (∀ op ∈ seg, op ≠ .commit s) →
    lookup s (finalM Defects.none (State.init cat) (pre ++ seg)).sessions = none →
    (run Defects.none cat (pre ++ eraseSess s seg ++ post)).2 =
      (run Defects.none cat pre).2 ++ maskOuts s seg ((run Defects.none cat (pre ++ seg)).2.drop pre.length) ++
        ((run Defects.none cat (pre ++ seg ++ post)).2.drop (pre.length + seg.length))

theorem drop_outs_left (l : List Op) (α : Spec.State) (r : List Out) : (Spec.outs α l ++ r).drop l.length = r := by
  have := List.drop_left (l₁ := Spec.outs α l) (l₂ := r)
  rwa [Spec.outs_length] at this

/-- **Abort erases, refused commits included.**  As `abort_erases`, but `seg` may contain commits of `s` as long as none
    of them was answered with `ok`: a transaction whose COMMIT is refused (write-write conflict, or the constraint
    re-check) is erased like one that rolls back — every other operation of the history, before, inside and after
    `seg`, answers the same when the operations of `s` in `seg` (the refused `commit` included) are replaced by `nop`. -/
theorem abort_erases_refused (cat : Catalog) (pre seg post : List Op) (s : String)
    (hpre : lookup s (finalM Defects.none (State.init cat) pre).sessions = none)
    (hnc : noCommitOk s seg ((run Defects.none cat (pre ++ seg)).2.drop pre.length) = true)
    (hseg : lookup s (finalM Defects.none (State.init cat) (pre ++ seg)).sessions = none) :
    (run Defects.none cat (pre ++ eraseSess s seg ++ post)).2 =
      (run Defects.none cat pre).2 ++ maskOuts s seg ((run Defects.none cat (pre ++ seg)).2.drop pre.length) ++
        ((run Defects.none cat (pre ++ seg ++ post)).2.drop (pre.length + seg.length)) := by
  have hp := (reach_rel cat pre).sessNone s hpre
  have hs := (reach_rel cat (pre ++ seg)).sessNone s hseg
  rw [Spec.final_append] at hs
  rw [run_outs_drop] at hnc
  rw [List.append_assoc pre, run_outs_append cat pre, run_outs_drop cat pre seg, ← List.length_append,
    run_outs_drop cat (pre ++ seg) post, Spec.final_append, spec_erase_segment s _ seg post hp hnc hs,
    refine_run, spec_run_outs, List.append_assoc]

/-- **Abort erases (history level, one transaction).**  `seg` runs from a point where session `s` has no transaction
    to a point where it has none again and contains no commit of `s` (its transactions there ended in ROLLBACK, a
    session drop, or were replaced by the next `begin`): the history with the operations of `s` inside `seg` replaced by
    `nop` answers every other operation — before, inside and AFTER `seg`, including later committing transactions of `s`
    itself — exactly as the full history does. -/
theorem abort_erases : abort_erases_statement := fun cat pre seg post s hpre hnc hseg =>
  abort_erases_refused cat pre seg post s hpre (noCommitOk_of_no_commit s seg _ hnc) hseg

/-- **Abort erases (history level).**  If session `s` never commits (each of its transactions ends in ROLLBACK, a
    session drop, is implicitly rolled back by the next `begin`, or stays open), the history with all of its operations
    replaced by `nop` gives every other operation — reads of all other sessions, autocommit statements, batches,
    commits — exactly the same output. -/
theorem abort_erases_partial (cat : Catalog) (ops : List Op) (s : String) (hnc : ∀ op ∈ ops, op ≠ .commit s) :
    (run Defects.none cat (eraseSess s ops)).2 = maskOuts s ops (run Defects.none cat ops).2 := by
  rw [refine_run, refine_run, spec_run_outs, spec_run_outs]
  exact (spec_erase s ops _ _ (eqExcept_init s cat) hnc).symm

example : eraseSess "s1" [.begin "s1", .exec "s2" (.sel "t" none), .exec "s1" (.del "t" none), .rollback "s1"] =
    [.nop, .exec "s2" (.sel "t" none), .nop, .nop] := rfl

/-- **A failing statement is atomic.**  A statement that answers with an error inside a session leaves the whole
    state (store, transaction table, write sets, sessions) exactly as it found it; only the history clock advances. -/
theorem failed_statement_atomic (σ : State) (s : String) (st : Stmt) (e : Err)
    (h : (step Defects.none σ (.exec s st)).2 = .stmt (.err e)) :
    (step Defects.none σ (.exec s st)).1 = { σ with clock := σ.clock + 1 } :=
  step_exec_failed σ s st e h

theorem outOfCommit_stmt_err {r : Option Err} {o : SOut} {e : Err} (h : outOfCommit r (.stmt o) = .stmt (.err e)) :
    o = .err e := by
  cases r with
  | none => simpa [outOfCommit] using h
  | some e' => simp [outOfCommit] at h

theorem spec_failed_auto_is_nop (α : Spec.State) (st : Stmt) (e : Err)
    (h : (Spec.step α (.auto st)).2 = .stmt (.err e)) : (Spec.step α (.auto st)).1 = (Spec.step α .nop).1 := by
  unfold Spec.step at h ⊢
  dsimp only [Spec.stepCore] at h ⊢
  split at h
  · rename_i herr; simp only [herr, if_true]
  · rename_i herr
    exfalso
    have := outOfCommit_stmt_err h
    rw [this] at herr
    simp [SOut.isErr] at herr

theorem spec_refused_commit_keeps_state (α : Spec.State) (a : Spec.ATxn) (e : Err)
    (h : (α.commitC a).2 = some e) : (α.commitC a).1 = α :=
  spec_commitC_refused_state α a e h

theorem spec_failed_batch_is_nop (α : Spec.State) (sts : List Stmt) (e : Err)
    (h : (Spec.step α (.batch sts)).2 = .batchErr e) :
    (Spec.step α (.batch sts)).1 = (Spec.step α .nop).1 := by
  unfold Spec.step at h ⊢
  dsimp only [Spec.stepCore] at h ⊢
  split at h
  · rename_i heq; simp only
  · rename_i a' outs heq
    simp only
    simp only at h
    cases hr : (α.commitC a').2 with
    | none => rw [hr] at h; cases h
    | some e' => rw [spec_refused_commit_keeps_state α a' e' hr]

theorem spec_failed_eqSess (α : Spec.State) (op : Op) (hf : (Spec.step α op).2.failed = true) :
    EqSess (Spec.step α op).1 (Spec.step α .nop).1 := by
  have hfail : ∀ {o : Out}, o.failed = true → (∃ e, o = .stmt (.err e)) ∨ ∃ e, o = .batchErr e := by
    intro o ho
    cases o with
    | stmt so =>
      cases so with
      | err e => exact Or.inl ⟨e, rfl⟩
      | _ => cases ho
    | batchErr e => exact Or.inr ⟨e, rfl⟩
    | _ => cases ho
  have hcommit : ∀ (r : Option Err), (outOfCommit r .ok).failed = false := fun r => by cases r <;> rfl
  cases op with
  | exec s st =>
    rcases hfail hf with ⟨e, he⟩ | ⟨e, he⟩
    · exact spec_failed_exec_eqSess α s st e he
    · unfold Spec.step at he; dsimp only [Spec.stepCore] at he
      split at he <;> cases he
  | auto st =>
    rcases hfail hf with ⟨e, he⟩ | ⟨e, he⟩
    · rw [spec_failed_auto_is_nop α st e he]; exact EqSess.refl _
    · unfold Spec.step at he; dsimp only [Spec.stepCore] at he
      split at he
      · cases he
      · simp only [outOfCommit] at he
        split at he <;> cases he
  | batch sts =>
    rcases hfail hf with ⟨e, he⟩ | ⟨e, he⟩
    · unfold Spec.step at he; dsimp only [Spec.stepCore] at he
      split at he
      · cases he
      · simp only at he
        split at he <;> cases he
    · rw [spec_failed_batch_is_nop α sts e he]; exact EqSess.refl _
  | commit s =>
    unfold Spec.step at hf; dsimp only [Spec.stepCore] at hf
    split at hf
    · cases hf
    · rw [hcommit] at hf; cases hf
  | rollback s | drop s =>
    unfold Spec.step at hf; dsimp only [Spec.stepCore] at hf
    split at hf <;> cases hf
  | begin s | tick | nop => cases hf

/-- **A failed statement erases (history level).**  An operation answered with an error — a statement failing inside a
    session whose transaction goes on and may commit, a failing autocommit statement, a failing batch — can be
    replaced by `nop`: every other operation of the history, before and after it, answers the same. -/
theorem failed_statement_erases (cat : Catalog) (pre post : List Op) (op : Op)
    (hf : ((run Defects.none cat (pre ++ [op])).2.getLast?.map Out.failed) = some true) :
    (run Defects.none cat (pre ++ .nop :: post)).2 =
      (run Defects.none cat pre).2 ++ Out.none :: (run Defects.none cat (pre ++ op :: post)).2.drop (pre.length + 1) := by
  rw [run_outs_append] at hf
  simp only [Spec.outs, List.getLast?_append, List.getLast?_singleton, Option.some_or, Option.map_some,
    Option.some.injEq] at hf
  have hq := spec_failed_eqSess (Spec.final (Spec.State.init cat) pre) op hf
  rw [run_outs_append cat pre, refine_run, spec_run_outs, List.append_cons pre op, run_outs_append cat (pre ++ [op]),
    ← List.length_singleton (a := op), ← List.length_append, drop_outs_left, Spec.final_append]
  exact congrArg (fun l => _ ++ Out.none :: l) (outs_eqSess post _ _ hq).symm

/-- a failing autocommit statement writes no version and no delete mark: the stored rows are untouched -/
theorem failed_auto_writes_nothing (σ : State) (st : Stmt) (e : Err)
    (h : (step Defects.none σ (.auto st)).2 = .stmt (.err e)) : (step Defects.none σ (.auto st)).1.rows = σ.rows := by
  unfold step at h ⊢
  dsimp only [stepCore] at h ⊢
  split at h
  · rename_i herr
    simp only [herr, if_true]
    rw [stmt_failed _ _ _ _ herr]
    rfl
  · rename_i herr
    rw [outOfCommit_stmt_err h] at herr
    exact absurd rfl herr

/-- **Dropping a session is a rollback.** -/
theorem session_drop_is_abort (D : Defects) (σ : State) (s : String) :
    step D σ (.drop s) = step D σ (.rollback s) := rfl

theorem spec_session_drop_is_abort (α : Spec.State) (s : String) :
    Spec.step α (.drop s) = Spec.step α (.rollback s) := rfl

/-- a rolled-back transaction leaves the abstract committed database and commit log untouched -/
theorem spec_rollback_keeps_committed (α : Spec.State) (s : String) :
    (Spec.step α (.rollback s)).1.committed = α.committed ∧ (Spec.step α (.rollback s)).1.log = α.log := by
  unfold Spec.step
  dsimp only [Spec.stepCore]
  cases lookup s α.sessions <;> exact ⟨rfl, rfl⟩

end AxVerif.Db.C03
