/-
  C06 — The chosen plan never changes the answer.

  The optimizer (sql/planner) rewrites the bound plan of a query by five transformation rules, may replace a filter
  over a table scan by an index scan, and picks the cheapest result under the statistics ANALYZE collected.  This file
  proves, for the plan algebra of Model/Plan.lean over the reference evaluator of C05 and for ALL stores, plans and
  predicates:

   * every rule preserves the multiset of result rows (`filter_merge_sound` … `join_assoc_sound`,
     `filter_to_index_scan_sound`), hence so does every sequence of rule applications anywhere in the plan
     (`optimize_sound`), hence every plan reachable from the bound plan of a query returns what the reference
     evaluator returns for the query as written (`optimize_sound_select`);
   * the bounds extracted from a predicate lose no row and admit no wrong one (`range_bounds_sound`,
     `range_bounds_exact`), and over a consistent index the index scan with the residual re-checked is the filter over
     the table scan (`index_scan_eq_filter`);
   * index maintenance on INSERT / UPDATE / DELETE and population at CREATE INDEX keep every index consistent with its
     table (`maintain_preserves_consistency`, `populate_consistent`);
   * a key deleted and inserted again inside one transaction is found through the index afterwards
     (`reinsert_after_own_delete_indexed`, `insert_into_free_key_indexed`);
   * a delivered ordering satisfies a required one exactly if the required one leads it (`ordering_satisfies_iff_prefix`),
     an input ordered by more keys is ordered by fewer (`sorted_on_prefix`), and what the sort enforcer hands to an
     operator is the input's rows in the order the operator requires (`enforcer_sound`);
   * the probe of the hash join is the join condition: no pair through a NULL key (`hash_probe_is_equi_match`);
   * the answer does not depend on the statistics the choice among plans was made with (`stats_irrelevant`).

  Hypotheses are explicit and decidable: `wfStore` (stored rows have the width and the types of their table, NOT NULL
  columns hold no NULL), `StoreConsistent` (row ids identify rows, every index agrees with its table), `wellScoped`
  (expressions read columns their input has — what the binder guarantees); examples at the end show they are
  satisfiable.  Every defect flag of the models has a `…_witness` theorem: a concrete counterexample to the property
  with the flag on.
-/
import AxVerif.Lemmas.PlanSql
import AxVerif.Lemmas.PlanOrd
namespace AxVerif.Thm.C06
open AxVerif.Sql AxVerif.Index AxVerif.Plan

/-- FilterMerge: two stacked filters are the filter on their conjunction (same rows, same order). -/
theorem filter_merge_sound (st : Store) (p q : Plan) (h : filterMerge p = some q) : evalPlan st q = evalPlan st p :=
  filterMerge_sound st p q h

/-- FilterPushdownJoin (INNER / CROSS): conjuncts that read one input only may be evaluated below the join, re-indexed
    for the right input; the others join the condition. -/
theorem filter_pushdown_join_sound (st : Store) (hwf : wfStore st = true) (p q : Plan)
    (h : filterPushdownJoin {} st p = some q) : evalPlan st q = evalPlan st p :=
  filterPushdownJoin_sound st hwf p q h

/-- FilterPushdownProject: a filter over a projection of plain column references is the projection of the filter with
    its columns mapped through the projection. -/
theorem filter_pushdown_project_sound (st : Store) (hwf : wfStore st = true) (p q : Plan)
    (hs : p.wellScoped st = true) (h : filterPushdownProject {} p = some q) : evalPlan st q = evalPlan st p :=
  filterPushdownProject_sound st hwf p q hs h

/-- JoinCommutativity (INNER / CROSS): joining the inputs the other way round, with the condition re-indexed for the
    swapped inputs and the columns put back in order by the projection the rule adds, gives the same multiset. -/
theorem join_comm_sound (st : Store) (hwf : wfStore st = true) (p q : Plan) (hs : p.wellScoped st = true)
    (h : joinCommute {} st p = some q) : (evalPlan st q).Perm (evalPlan st p) :=
  joinCommute_sound st hwf p q hs h

/-- the column permutation JoinCommutativity records: the restoring projection maps `b ++ a` back to `a ++ b` -/
theorem join_comm_permutation (ltys rtys : List Ty) (a b : Row) (ha : conformsRow ltys a = true)
    (hb : conformsRow rtys b = true) :
    projectRow {} (rtys ++ ltys) (restoreOrder ltys.length rtys.length) (b ++ a) = .ok (a ++ b) :=
  projectRow_restore ltys rtys a b ha hb

/-- JoinAssociativity (inner joins): `(A ⋈ B) ⋈ C` and `A ⋈ (B ⋈ C)` with the conjuncts of both conditions split by
    whether they read `A` return the same rows in the same order. -/
theorem join_assoc_sound (st : Store) (hwf : wfStore st = true) (p q : Plan) (hs : p.wellScoped st = true)
    (h : joinAssoc {} st p = some q) : evalPlan st q = evalPlan st p :=
  joinAssoc_sound st hwf p q hs h

/-- every rule keeps the schema of the plan and keeps it well scoped, so rules can be chained -/
theorem rules_keep_schema (st : Store) (p q : Plan) (hs : p.wellScoped st = true) (h : q ∈ rootSteps {} st p) :
    q.tys st = p.tys st ∧ q.wellScoped st = true :=
  ⟨(rootSteps_keeps st p q h).tys, (rootSteps_keeps st p q h).scope hs⟩

/-- Every row on which the predicate is TRUE has its key inside the bounds extracted from the predicate (and satisfies
    the residual): an index scan over the bounds with the residual re-checked loses nothing. -/
theorem range_bounds_sound (ixcols : List Nat) (tys : List Ty) (p : Expr) (r : Row) (h : holds tys p r = true) :
    boundsOk (extractBounds ixcols p).1 (extractBounds ixcols p).2.1 (keyOf ixcols r) = true
      ∧ holdsOpt tys (extractBounds ixcols p).2.2 r = true := by
  rw [extractBounds_spec ixcols tys p r, Bool.and_eq_true] at h
  exact h

/-- … and admits nothing: bounds and residual together are the predicate. -/
theorem range_bounds_exact (ixcols : List Nat) (tys : List Ty) (p : Expr) (r : Row) :
    holds tys p r = (boundsOk (extractBounds ixcols p).1 (extractBounds ixcols p).2.1 (keyOf ixcols r)
      && holdsOpt tys (extractBounds ixcols p).2.2 r) :=
  extractBounds_spec ixcols tys p r

/-- Through a consistent index, a scan delivers exactly the rows whose key lies inside the bounds. -/
theorem index_scan_rows (ix : Index) (rows : Rows) (lo hi : List Bound) (hc : IndexConsistent ix rows)
    (hd : RidsDistinct rows) :
    (Index.scan ix rows lo hi).Perm
      ((rows.filter (fun r => !hasNull (keyOf ix.cols r.2) && boundsOk lo hi (keyOf ix.cols r.2))).map (·.2)) :=
  scan_perm ix rows lo hi hc hd

/-- Under `IndexConsistent`: index scan with the extracted bounds and the residual = filter over the table scan. -/
theorem index_scan_eq_filter (st : Store) (hwf : wfStore st = true) (hc : StoreConsistent st) (t k : Nat) (p : Expr)
    (ix : Index) (hix : (st.getD t default).indexes[k]? = some ix)
    (hnb : nullableBounded (st.getD t default) ix.cols (extractBounds ix.cols p).1 (extractBounds ix.cols p).2.1 = true) :
    (evalPlan st (.indexScan t k (extractBounds ix.cols p).1 (extractBounds ix.cols p).2.1 (extractBounds ix.cols p).2.2)).Perm
      (evalPlan st (.filter p (.scan t))) :=
  indexScan_eval st hwf hc t k p ix hix hnb

/-- FilterToIndexScan, as the rule applies it. -/
theorem filter_to_index_scan_sound (st : Store) (hwf : wfStore st = true) (hc : StoreConsistent st) (k : Nat)
    (p q : Plan) (h : filterToIndexScan {} st k p = some q) : (evalPlan st q).Perm (evalPlan st p) :=
  filterToIndexScan_sound st hwf hc k p q h

/-- Any plan reachable from `p` by any sequence of rule applications, at the root or anywhere inside the plan, evaluates
    to the same multiset of rows (and has the same schema). -/
theorem optimize_sound (st : Store) (hwf : wfStore st = true) (hc : StoreConsistent st) (p q : Plan)
    (hs : p.wellScoped st = true) (h : Reachable st p q) :
    (evalPlan st q).Perm (evalPlan st p) ∧ q.tys st = p.tys st := by
  have s := reachable_sound st hwf hc p q hs h
  exact ⟨s.eval, s.tys⟩

/-- When the error-propagating evaluation of a plan succeeds, its result is that of the total evaluation the rule
    theorems are about. -/
theorem strict_agrees (st : Store) (p : Plan) (rows : List Row) (h : evalPlanE st p = .ok rows) : rows = evalPlan st p :=
  evalPlanE_ok st p rows h

/-- The reference evaluator of C05 on a plain query (no aggregates, ORDER BY, DISTINCT, LIMIT) is the strict evaluation
    of the bound plan. -/
theorem bound_plan_is_select (st : Store) (nf : Bool) (q : Select) (hq : plainQuery q = true) :
    evalSelect {} nf st.db q = evalPlanE st (boundPlan q) :=
  evalSelect_plan st nf q hq

/-- The property: whatever plan the optimizer reaches from the query as written — filters merged or pushed, joins
    commuted or re-associated, table scans replaced by index scans — it returns the rows the reference evaluator returns
    for the query as written (as a multiset). -/
theorem optimize_sound_select (st : Store) (hwf : wfStore st = true) (hc : StoreConsistent st) (nf : Bool) (q : Select)
    (hq : plainQuery q = true) (hs : (boundPlan q).wellScoped st = true) (out : List Row)
    (hout : evalSelect {} nf st.db q = .ok out) (p : Plan) (h : Reachable st (boundPlan q) p) :
    (evalPlan st p).Perm out := by
  rw [bound_plan_is_select st nf q hq] at hout
  rw [strict_agrees st _ out hout]
  exact (optimize_sound st hwf hc _ p hs h).1

/-- … and two plans the optimizer could choose for the same query agree with each other. -/
theorem plans_agree (st : Store) (hwf : wfStore st = true) (hc : StoreConsistent st) (p q₁ q₂ : Plan)
    (hs : p.wellScoped st = true) (h₁ : Reachable st p q₁) (h₂ : Reachable st p q₂) :
    (evalPlan st q₁).Perm (evalPlan st q₂) :=
  (optimize_sound st hwf hc p q₁ hs h₁).1.trans (optimize_sound st hwf hc p q₂ hs h₂).1.symm

theorem choose_mem (s : Stats) (cands : List Plan) (q : Plan) (h : choose s cands = some q) : q ∈ cands := by
  revert q
  fun_induction choose s cands <;> intro q h
  case case1 => cases h
  case case3 c cs b hb _ ih =>
    cases h
    exact List.mem_cons_of_mem _ (ih _ hb)
  all_goals
    cases h
    exact List.mem_cons_self

/-- Evaluation does not take statistics: they enter the cost model only (`cost : Stats → Plan → Nat`), which selects
    among plans reachable from the bound plan.  Whatever statistics the choice is made with — before or after ANALYZE,
    any sample — the chosen plans return the same multiset of rows. -/
theorem stats_irrelevant (st : Store) (hwf : wfStore st = true) (hc : StoreConsistent st) (p : Plan)
    (hs : p.wellScoped st = true) (cands : List Plan) (hall : ∀ c ∈ cands, Reachable st p c) (s₁ s₂ : Stats)
    (q₁ q₂ : Plan) (h₁ : choose s₁ cands = some q₁) (h₂ : choose s₂ cands = some q₂) :
    (evalPlan st q₁).Perm (evalPlan st q₂) :=
  plans_agree st hwf hc p q₁ q₂ hs (hall q₁ (choose_mem s₁ cands q₁ h₁)) (hall q₂ (choose_mem s₂ cands q₂ h₂))

/-- what the executor guarantees before it touches the index: a fresh row id for an inserted row, the uniqueness check
    of the new key, and an UPDATE that changes only the columns it assigns -/
def OpOk (ix : Index) (rows : Rows) : Op → Prop
  | .insert rid row => rid ∉ rows.map (·.1) ∧ KeyFresh ix rows row
  | .delete _ => True
  | .update rid new assigned =>
    (∀ old, (rid, old) ∈ rows → ∀ c ∈ ix.cols, assigned.contains c = false → new.getD c .null = old.getD c .null)
      ∧ KeyFresh ix (rows.filter (fun r => r.1 != rid)) new

/-- INSERT, UPDATE (of indexed and of other columns) and DELETE of a row, with the maintenance
    `maintain_secondary_indexes` performs, keep the index consistent with the table. -/
theorem maintain_preserves_consistency (ix : Index) (rows : Rows) (op : Op) (hc : IndexConsistent ix rows)
    (hd : RidsDistinct rows) (hok : OpOk ix rows op) :
    IndexConsistent (maintain {} ix rows op) (apply rows op) ∧ RidsDistinct (apply rows op) := by
  fun_cases maintain {} ix rows op
  case case1 rid row =>
    exact ⟨insert_consistent ix rows rid row hc hok.2, rids_apply rows hd (.insert rid row) hok.1⟩
  case case2 rid old hf =>
    exact ⟨delete_consistent ix rows rid old hc hd (fetch_some_mem rows rid old hf), rids_apply rows hd (.delete rid) trivial⟩
  case case3 rid hf =>
    refine ⟨?_, rids_apply rows hd (.delete rid) trivial⟩
    rw [apply, filter_ne_self (fetch_none_ne hf)]
    exact hc
  case case4 rid new assigned old hf =>
    have hm := fetch_some_mem rows rid old hf
    exact ⟨update_consistent ix rows rid old new assigned hc hd hm (hok.1 old hm) hok.2,
      rids_apply rows hd (.update rid new assigned) trivial⟩
  case case5 rid new assigned hf =>
    refine ⟨?_, rids_apply rows hd (.update rid new assigned) trivial⟩
    rw [apply, map_replace_self new (fetch_none_ne hf)]
    exact hc

/-- keys of the rows that get an entry are pairwise different (the UNIQUE constraint the index implements) -/
def KeysUnique (cols : List Nat) (rows : Rows) : Prop := ((rowPairs cols rows).map (·.1)).Nodup

instance (cols : List Nat) (rows : Rows) : Decidable (KeysUnique cols rows) := by unfold KeysUnique; exact inferInstance

theorem populate_step (cols : List Nat) : ∀ (rs : Rows) (ix : Index) (rows0 : Rows), ix.cols = cols →
    IndexConsistent ix rows0 → KeysUnique cols (rows0 ++ rs) → IndexConsistent (rs.foldl (fun ix r => ix.insert r.1 r.2) ix) (rows0 ++ rs)
  | [], ix, rows0, _, hc, _ => by simpa using hc
  | r :: rs, ix, rows0, hcols, hc, hu => by
    have hfresh : KeyFresh ix rows0 r.2 := by
      simp only [KeyFresh, hcols]
      cases hn : hasNull (keyOf cols r.2)
      · right
        intro hmem
        have hu' : ((rowPairs cols (rows0 ++ [(r.1, r.2)] ++ rs)).map (·.1)).Nodup := by
          simpa [KeysUnique, List.append_assoc] using hu
        have : rowPairs cols (rows0 ++ [(r.1, r.2)] ++ rs)
            = rowPairs cols rows0 ++ [(keyOf cols r.2, r.1)] ++ rowPairs cols rs := by
          simp [rowPairs, List.filter_append, hn]
        rw [this] at hu'
        simp only [List.map_append, List.map_cons, List.map_nil, List.append_assoc] at hu'
        have := (List.nodup_append.mp hu').2.2 _ hmem (keyOf cols r.2) (by simp)
        exact this rfl
      · left; rfl
    have h1 := insert_consistent ix rows0 r.1 r.2 hc hfresh
    have := populate_step cols rs (ix.insert r.1 r.2) (rows0 ++ [(r.1, r.2)]) (by rw [insert_cols, hcols]) h1
      (by simpa [List.append_assoc] using hu)
    simpa [List.foldl, List.append_assoc] using this

/-- CREATE INDEX on a populated table: the populated index is consistent with the table. -/
theorem populate_consistent (cols : List Nat) (rows : Rows) (hu : KeysUnique cols rows) :
    IndexConsistent (populate cols rows) rows := by
  have := populate_step cols rows { cols := cols, entries := [] } [] rfl
    ⟨by simp [KeysDistinct], by simp [livePairs, Index.live, rowPairs]⟩ (by simpa using hu)
  simpa [populate] using this

/-- DELETE of the row with key `k` and INSERT of a row with the same key in ONE transaction (a session, a batch): the
    delete mark the transaction itself set frees the entry, the new row takes it over.  The transaction — and, once it
    has committed, every later reader (`reader_after_commit`) — finds exactly the new row under `k` through the index,
    and every other key as before. -/
theorem reinsert_after_own_delete_indexed (committed aborted : List Nat) (tid : Nat) (k : List Value) (rid rid' : Nat)
    (es : List TEntry) (hkeys : (es.map (·.key)).Nodup) (hrow : (k, rid) ∈ tPairs committed tid es)
    (p : List Value × Nat) :
    p ∈ tPairs committed tid (tInsert {} committed aborted tid k rid' (tDelete committed tid k es))
      ↔ (p = (k, rid') ∨ (p ∈ tPairs committed tid es ∧ p.1 ≠ k)) :=
  delete_then_insert_pairs committed aborted tid k rid rid' es hkeys hrow p

/-- what the transaction sees of the index is what every later reader sees once the transaction has committed -/
theorem reader_after_commit (committed : List Nat) (tid r : Nat) (es : List TEntry)
    (hr : ∀ e ∈ es, e.xmin ≠ r ∧ e.xmax ≠ some r) : tPairs (tid :: committed) r es = tPairs committed tid es :=
  tPairs_after_commit committed tid r es hr

/-- An inserted row always gets an index entry its transaction sees when the key is free: no entry under the key, an
    entry with a delete mark (whoever set it — the transaction itself included), or the entry of a rolled-back INSERT. -/
theorem insert_into_free_key_indexed (committed aborted : List Nat) (tid : Nat) (k : List Value) (rid' : Nat)
    (es : List TEntry) (hfree : ∀ e ∈ es, e.key = k → aborted.contains e.xmin = true ∨ e.xmax.isSome = true) :
    (k, rid') ∈ tPairs committed tid (tInsert {} committed aborted tid k rid' es) :=
  insert_gets_entry committed aborted tid k rid' es hfree

def wT : List TEntry := [{ key := [.int 60], rid := 1, xmin := 0 }]

/-- The seeded change "a delete mark counts only if the deleter committed": transaction 1 deletes the row with key 60
    and inserts a row with key 60 — the old, marked entry is kept, the new row (row id 2) has no entry: after the commit
    nobody finds it through the index. -/
theorem reuseNeedsCommittedDelete_witness :
    (([.int 60] : List Value), 2) ∉ tPairs [0] 1 (tInsert { reuseNeedsCommittedDelete := true } [0] [] 1 [.int 60] 2 (tDelete [0] 1 [.int 60] wT))
      ∧ (([.int 60] : List Value), 2) ∈ tPairs [0] 1 (tInsert {} [0] [] 1 [.int 60] 2 (tDelete [0] 1 [.int 60] wT)) := by
  decide

/-- Shipped before 5b107bb: the entry of a rolled-back INSERT (transaction 5) carries no delete mark and was kept: the
    row inserted afterwards under the same key had no entry. -/
theorem keepsAbortedInsert_witness :
    (([.int 60] : List Value), 2) ∉ tPairs [0] 6 (tInsert { keepsAbortedInsert := true } [0] [5] 6 [.int 60] 2 [{ key := [.int 60], rid := 1, xmin := 5 }])
      ∧ (([.int 60] : List Value), 2) ∈ tPairs [0] 6 (tInsert {} [0] [5] 6 [.int 60] 2 [{ key := [.int 60], rid := 1, xmin := 5 }]) := by
  decide

/-- The listed finding KF-C06-index-entry-replaced, in the model as in the code: with one entry per key the re-insert
    REPLACES the entry of the deleted row; if the transaction (1) is then rolled back, a later reader (9) sees the old
    row in the table again but finds no entry for it. -/
theorem reinsert_rolled_back_entry_lost_witness :
    (([.int 60] : List Value), 1) ∈ tPairs [0] 9 wT
      ∧ (([.int 60] : List Value), 1) ∉ tPairs [0] 9 (tInsert {} [0] [] 1 [.int 60] 2 (tDelete [0] 1 [.int 60] wT)) := by
  decide

example : (wT.map (·.key)).Nodup ∧ (([.int 60] : List Value), 1) ∈ tPairs [0] 1 wT := by decide

def wA : STable := { tys := [.int, .int], rows := [(1, [.int 1, .int 10]), (2, [.int 2, .int 20])] }
def wB : STable := { tys := [.int, .int, .int], rows := [(1, [.int 10, .int 1, .null]), (2, [.int 30, .int 2, .int 6])] }
def wSt : Store := [wA, wB]

/-- `A JOIN B ON a.c1 = b.c0` -/
def wJoin : Plan := .join .inner (some (.cmp .eq (.col 1) (.col 2))) (.scan 0) (.scan 1)

/-- Shipped JoinCommutativity (repaired by 2c21c6e): the commuted join keeps the column indices of the condition and
    the column order of the swapped inputs: it returns other rows than the join it stands for. -/
theorem joinCommuteKeepsIndices_witness :
    ∃ q, joinCommute { joinCommuteKeepsIndices := true } wSt wJoin = some q ∧ ¬ (evalPlan wSt q).Perm (evalPlan wSt wJoin) := by
  refine ⟨_, rfl, ?_⟩
  decide

example : ∃ q, joinCommute {} wSt wJoin = some q ∧ (evalPlan wSt q).Perm (evalPlan wSt wJoin) := ⟨_, rfl, by decide⟩

/-- `SELECT … FROM A CROSS JOIN B WHERE b.c0 IS NOT NULL` -/
def wPush : Plan := .filter (.isNull true (.col 2)) (.join .inner none (.scan 0) (.scan 1))

/-- Shipped column helpers (repaired by be64507): `shift_columns` did not look inside IS NULL / BETWEEN / IN / unary
    operators, the conjunct was pushed to the right input with its index unshifted and read another column. -/
theorem helpersSkipForms_witness :
    ∃ q, filterPushdownJoin { helpersSkipForms := true } wSt wPush = some q ∧ ¬ (evalPlan wSt q).Perm (evalPlan wSt wPush) := by
  refine ⟨_, rfl, ?_⟩
  decide

example : ∃ q, filterPushdownJoin {} wSt wPush = some q ∧ evalPlan wSt q = evalPlan wSt wPush := ⟨_, rfl, by decide⟩

def wSelf : Plan :=
  .join .inner none (.filter (.cmp .eq (.col 0) (.lit (.int 1))) (.scan 0)) (.filter (.cmp .eq (.col 0) (.lit (.int 2))) (.scan 0))

/-- Shipped memo deduplication (repaired by bb3cfff): two filters over the same input were one memo group, one predicate
    was applied twice and the other lost. -/
theorem memoIgnoresPredicates_witness :
    ¬ (evalPlan wSt (memoJoinInputs { memoIgnoresPredicates := true } wSelf)).Perm (evalPlan wSt wSelf) := by
  decide

example : evalPlan wSt (memoJoinInputs {} wSelf) = evalPlan wSt wSelf := by decide

/-- `(A JOIN B ON a.c0 = b.c1 AND b.c2 = 6) JOIN A` -/
def wAssoc : Plan :=
  .join .inner none
    (.join .inner (some (.and (.cmp .eq (.col 0) (.col 3)) (.cmp .eq (.col 4) (.lit (.int 6))))) (.scan 0) (.scan 1))
    (.scan 0)

/-- Shipped JoinAssociativity (repaired by 9094b3e): the B-only conjunct of the inner condition was dropped. -/
theorem assocDropsBOnly_witness :
    ∃ q, joinAssoc { assocDropsBOnly := true } wSt wAssoc = some q ∧ ¬ (evalPlan wSt q).Perm (evalPlan wSt wAssoc) := by
  refine ⟨_, rfl, ?_⟩
  decide

example : ∃ q, joinAssoc {} wSt wAssoc = some q ∧ evalPlan wSt q = evalPlan wSt wAssoc := ⟨_, rfl, by decide⟩

/-- a table with a unique index on (c0, c1); the row with NULL in c1 has no entry -/
def wC : STable :=
  { tys := [.int, .int], rows := [(1, [.int 5, .null]), (2, [.int 5, .int 7])],
    indexes := [populate [0, 1] [(1, [.int 5, .null]), (2, [.int 5, .int 7])]] }

/-- `WHERE c0 = 5` -/
def wFilter : Plan := .filter (.cmp .eq (.col 0) (.lit (.int 5))) (.scan 0)

/-- Using an index although an unbounded indexed column may be NULL (repaired by 47df9d4): the index scan misses the
    row that has no entry. -/
theorem indexScanIgnoresNullable_witness :
    ∃ q, filterToIndexScan { indexScanIgnoresNullable := true } [wC] 0 wFilter = some q
      ∧ ¬ (evalPlan [wC] q).Perm (evalPlan [wC] wFilter) := by
  refine ⟨_, rfl, ?_⟩
  decide

example : filterToIndexScan {} [wC] 0 wFilter = none := by decide

def wRows : Rows := [(1, [.int 1, .int 10]), (2, [.int 2, .int 20])]
def wIx : Index := populate [1] wRows

/-- Shipped index maintenance on UPDATE of an indexed column (a listed finding, pinned by
    `test_index_maintained_on_update`): the entry stays under the old key, the index no longer agrees with the table —
    and an index scan for the new key finds nothing while the table scan finds the row. -/
theorem indexUpdateKeepsOldKey_witness :
    IndexConsistent wIx wRows
      ∧ ¬ IndexConsistent (maintain { indexUpdateKeepsOldKey := true } wIx wRows (.update 2 [.int 2, .int 25] [1]))
          (apply wRows (.update 2 [.int 2, .int 25] [1]))
      ∧ Index.scan (maintain { indexUpdateKeepsOldKey := true } wIx wRows (.update 2 [.int 2, .int 25] [1]))
          (apply wRows (.update 2 [.int 2, .int 25] [1])) [⟨0, .int 25, true⟩] [⟨0, .int 25, true⟩] = [] := by
  refine ⟨by decide, by decide, by decide⟩

example : IndexConsistent (maintain {} wIx wRows (.update 2 [.int 2, .int 25] [1])) (apply wRows (.update 2 [.int 2, .int 25] [1])) := by
  decide

/-- PhysicalProperties::satisfies: a delivered ordering satisfies a required one if and only if the required keys
    are the first keys of the delivered ordering (as plain columns, same directions) -/
theorem ordering_satisfies_iff_prefix (delivered : List DKey) (required : List OrdKey) :
    satisfies {} delivered required = true ↔ required.map some <+: delivered := by
  unfold satisfies
  cases required with
  | nil => simp
  | cons k rs => simpa using leads_iff_prefix (k :: rs) delivered

/-- rows ordered by the keys `r ++ t` are ordered by the keys `r` (what makes the prefix rule safe) -/
theorem sorted_on_prefix (nf : Bool) (r t : List OrdKey) (rows : List Row) :
    SortedOn nf (r ++ t) rows → SortedOn nf r rows :=
  sortedOn_prefix nf r t rows

/-- The enforcer of extract_plan.  If the input's rows really are ordered by every column prefix of the ordering it
    declares, then what the operator above receives is a permutation of the input's rows, ordered by the keys the
    operator requires; and the ordering it may rely on afterwards is led by the required one. -/
theorem enforcer_sound (nf : Bool) (delivered : List DKey) (required : List OrdKey) (rows : List Row)
    (hdel : ∀ p : List OrdKey, p.map some <+: delivered → SortedOn nf p rows) :
    SortedOn nf required (enforce {} nf delivered required rows)
      ∧ (enforce {} nf delivered required rows).Perm rows
      ∧ required.map some <+: enforcedOrdering {} delivered required := by
  unfold enforce enforcedOrdering
  by_cases hs : satisfies {} delivered required = true
  · have hp := (ordering_satisfies_iff_prefix delivered required).mp hs
    simp only [hs, if_true]
    exact ⟨hdel required hp, List.Perm.refl _, hp⟩
  · simp only [hs]
    exact ⟨sortOn_sorted nf required rows, sortOn_perm nf required rows, List.prefix_refl _⟩

/-- the Sort operator delivers what it declares: every column prefix of its keys -/
theorem sort_delivers (nf : Bool) (ks p : List OrdKey) (rows : List Row) (hp : p.map some <+: ks.map some) :
    SortedOn nf p (sortOn nf ks rows) := by
  have hinj : Function.Injective (some : OrdKey → DKey) := fun a b h => by injection h
  obtain ⟨t', rfl⟩ := (List.prefix_map_iff_of_injective hinj).1 hp
  exact sortedOn_prefix nf p t' _ (sortOn_sorted nf (p ++ t') rows)

/-- the zip reading accepts a delivered ordering exactly if one of the two orderings leads the other -/
theorem ordering_zip_reading (k : OrdKey) (required : List OrdKey) (x : DKey) (ds : List DKey) :
    (satisfies { orderingPrefixEitherWay := true } (x :: ds) (k :: required) = true
      ↔ ((k :: required).map some <+: x :: ds ∨ x :: ds <+: (k :: required).map some)) := by
  have := leadsZip_iff (k :: required) (x :: ds)
  simpa [satisfies] using this

/-- The demonstration of the seeded change: t(id, a, b) joined to u on a, the result (ordered by `a` only, as the
    lower merge join declares) joined to v(id, ua, d) on (a, b) = (ua, d).  -/
def wJoined : List Row :=
  [[.int 1, .int 1, .int 30], [.int 2, .int 1, .int 10], [.int 4, .int 1, .int 20], [.int 3, .int 2, .int 20], [.int 5, .int 2, .int 10]]
def wV : List Row :=
  [[.int 1, .int 1, .int 10], [.int 2, .int 1, .int 20], [.int 3, .int 1, .int 30], [.int 4, .int 2, .int 10], [.int 5, .int 2, .int 20]]
def wDelivered : List DKey := [some ⟨1, true⟩]
def wRequired : List OrdKey := [⟨1, true⟩, ⟨2, true⟩]

/-- Seeded change (flag `orderingPrefixEitherWay`): the delivered ordering `[a]` passes for the required `[a, b]`, no
    Sort is put in, the merge join reads an input that is not ordered by its keys and pairs two of the five rows —
    the nested-loop reading of the same join, and the merge join over the enforced input of the specification, pair
    all five. -/
theorem orderingPrefixEitherWay_witness :
    satisfies { orderingPrefixEitherWay := true } wDelivered wRequired = true
      ∧ satisfies {} wDelivered wRequired = false
      ∧ sortedOnB true [⟨1, true⟩] wJoined = true
      ∧ sortedOnB true wRequired (enforce { orderingPrefixEitherWay := true } true wDelivered wRequired wJoined) = false
      ∧ (mergeInner [1, 2] [1, 2] 10 (enforce { orderingPrefixEitherWay := true } true wDelivered wRequired wJoined) wV).length = 2
      ∧ (nlInner [1, 2] [1, 2] wJoined wV).length = 5
      ∧ (mergeInner [1, 2] [1, 2] 10 (enforce {} true wDelivered wRequired wJoined) wV).Perm (nlInner [1, 2] [1, 2] wJoined wV) := by
  refine ⟨by decide, by decide, by decide, by decide, by decide, by decide, by decide⟩

def IntOrNull (v : Value) : Prop := v = .null ∨ ∃ i, v = .int i

theorem eq3_int_or_null (x y : Value) (hx : IntOrNull x) (hy : IntOrNull y) :
    cmp3 .eq x y = some true ↔ (x = y ∧ x ≠ .null) := by
  rcases hx with rfl | ⟨i, rfl⟩ <;> rcases hy with rfl | ⟨j, rfl⟩
  · simp [cmp3]
  · simp [cmp3]
  · simp [cmp3]
  · simp [cmp3, CmpOp.holds, Value.cmp, cmpInt_eq]

theorem keys_eq_iff_all_eq3 (xs ys : List Value) (hlen : xs.length = ys.length)
    (hx : ∀ v ∈ xs, IntOrNull v) (hy : ∀ v ∈ ys, IntOrNull v) :
    (xs = ys ∧ ∀ v ∈ xs, v ≠ .null) ↔ ∀ p ∈ xs.zip ys, cmp3 .eq p.1 p.2 = some true := by
  induction xs generalizing ys with
  | nil =>
    cases ys with
    | nil => simp
    | cons y ys => simp at hlen
  | cons x xs ih =>
    cases ys with
    | nil => simp at hlen
    | cons y ys =>
      have hlen' : xs.length = ys.length := by simpa using hlen
      have hx' : ∀ v ∈ xs, IntOrNull v := fun v hv => hx v (List.mem_cons_of_mem _ hv)
      have hy' : ∀ v ∈ ys, IntOrNull v := fun v hv => hy v (List.mem_cons_of_mem _ hv)
      have h1 := eq3_int_or_null x y (hx x (by simp)) (hy y (by simp))
      have h2 := ih ys hlen' hx' hy'
      simp only [List.zip_cons_cons, List.mem_cons, forall_eq_or_imp, List.cons.injEq]
      rw [h1, ← h2]
      constructor
      · rintro ⟨⟨hxy, hrest⟩, hnx, hn⟩; exact ⟨⟨hxy, hnx⟩, hrest, hn⟩
      · rintro ⟨⟨hxy, hnx⟩, hrest, hn⟩; exact ⟨⟨hxy, hrest⟩, hnx, hn⟩

/-- The probe of the hash join is the join condition: over INT / BIGINT keys (NULLs allowed) a left row finds a right
    row under its key exactly if every `column = column` of the condition is TRUE for the pair — in particular never
    through a NULL key. -/
theorem hash_probe_is_equi_match (kl kr : List Nat) (hlen : kl.length = kr.length) (a b : Row)
    (ha : ∀ v ∈ joinKey kl a, IntOrNull v) (hb : ∀ v ∈ joinKey kr b, IntOrNull v) :
    hashMatch {} kl kr a b = equiMatch kl kr a b := by
  have hl : (joinKey kl a).length = (joinKey kr b).length := by simp [joinKey, hlen]
  have h := keys_eq_iff_all_eq3 (joinKey kl a) (joinKey kr b) hl ha hb
  rw [Bool.eq_iff_iff]
  simp only [hashMatch, equiMatch, Bool.false_or, Bool.and_eq_true, beq_iff_eq, Bool.not_eq_true', List.any_eq_false,
    List.all_eq_true]
  constructor
  · rintro ⟨he, hn⟩; exact h.mp ⟨he, fun v hv hv0 => by simpa [hv0] using hn v hv⟩
  · intro hall
    obtain ⟨he, hn⟩ := h.mpr hall
    exact ⟨he, fun v hv => by simpa using hn v hv⟩

def wJL : List Row := [[.int 1], [.null]]
def wJR : List Row := [[.null], [.int 1], [.int 2]]

/-- Shipped hash join (flag `hashJoinNullEqualsNull`; never chosen by the shipped cost model, reached by running the
    operator directly): the left row with the NULL key is paired with the right row with the NULL key instead of both
    being NULL-padded.  The repaired probe returns the rows of the join. -/
theorem hashJoinNullEqualsNull_witness :
    hashJoin { hashJoinNullEqualsNull := true } .full [0] [0] 1 1 wJL wJR
        = [[.int 1, .int 1], [.null, .null], [.null, .int 2]]
      ∧ joinPure .full (equiMatch [0] [0]) 1 1 wJL wJR
        = [[.int 1, .int 1], [.null, .null], [.null, .null], [.null, .int 2]]
      ∧ hashJoin {} .full [0] [0] 1 1 wJL wJR = joinPure .full (equiMatch [0] [0]) 1 1 wJL wJR := by
  refine ⟨by decide, by decide, by decide⟩

def exT : STable :=
  { tys := [.int, .int, .text], notNull := [true, false, false],
    rows := [(1, [.int 1, .int 10, .text [97]]), (2, [.int 2, .null, .null]), (3, [.int 3, .int 30, .text [98]])],
    indexes := [populate [0] [(1, [.int 1, .int 10, .text [97]]), (2, [.int 2, .null, .null]), (3, [.int 3, .int 30, .text [98]])],
                populate [1] [(1, [.int 1, .int 10, .text [97]]), (2, [.int 2, .null, .null]), (3, [.int 3, .int 30, .text [98]])]] }

example : wfStore [exT, wA] = true := by decide
example : StoreConsistent [exT] := by
  intro tb htb
  simp only [List.mem_singleton] at htb
  subst htb
  refine ⟨by decide, ?_⟩
  intro ix hix
  simp only [exT, List.mem_cons, List.not_mem_nil, or_false] at hix
  rcases hix with rfl | rfl <;> decide
example : (Plan.filter (.cmp .gt (.col 1) (.lit (.int 5))) (.scan 0)).wellScoped [exT] = true := by decide
/-- the index on the nullable column 1 is used for `c1 > 5` (the bound rejects NULL keys) and returns the filter's rows -/
example : ∃ q, filterToIndexScan {} [exT] 1 (.filter (.cmp .gt (.col 1) (.lit (.int 5))) (.scan 0)) = some q
    ∧ (evalPlan [exT] q).Perm (evalPlan [exT] (.filter (.cmp .gt (.col 1) (.lit (.int 5))) (.scan 0))) := ⟨_, rfl, by decide⟩
example : OpOk wIx wRows (.update 2 [.int 2, .int 25] [1]) := by
  refine ⟨?_, ?_⟩
  · intro old hold c hc hna
    have hcols : wIx.cols = [1] := by decide
    rw [hcols] at hc
    simp only [List.mem_singleton] at hc
    subst hc
    simp at hna
  · right; decide
example : KeysUnique [1] wRows := by decide
def exQuery : Select :=
  { distinct := false, from_ := From.table 0, where_ := some (Expr.cmp CmpOp.gt (Expr.col 1) (Expr.lit (Value.int 5))),
    groupBy := [], aggs := [], items := none, orderBy := [], limit := none, offset := none }
example : plainQuery exQuery = true := by decide
example : (boundPlan exQuery).wellScoped [exT] = true := by decide

end AxVerif.Thm.C06
