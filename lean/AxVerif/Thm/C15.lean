/-
  C15 — Schema changes are transactional and the catalog stays coherent.

  Theorems for `Defects.none`, for EVERY history of DDL and DML operations (`Ddl.DOp`): any number of sessions,
  tables, interleavings, committed and rolled-back transactions, reopen.  In the model the catalog is data: one
  row per relation in the table `$meta` of the same versioned store (`Model/Ddl.lean`), so DDL obeys the
  transaction machinery proved in C04 / C03 / C07.  `Ddl.run D ops` = (final state, outputs) of the MVCC machine,
  `Ddl.Spec.run` of the abstract machine in which a transaction works on `base ⊕ own effects`.
-/
import AxVerif.Lemmas.DdlCat
namespace AxVerif.Ddl.C15
open AxVerif.Db AxVerif.Ddl

/-- **Refinement.**  On every history of DDL and DML the MVCC machine answers exactly like the abstract machine:
    DDL outcomes, name resolution of every later statement (`notfound` or not), every `SELECT *`, every commit. -/
theorem ddl_refines (ops : List DOp) : (run Defects.none ops).2 = (Spec.run ops).2 :=
  (dreach ops State.init Spec.State.init dinit_rel).1

/-- a statement — DDL or DML — changes nothing but the executing transaction's own record (and appends to the
    descriptor heap): the committed database and every other session are untouched until the commit -/
theorem ddl_invisible_until_commit (α : Spec.State) (s : String) (st : DStmt) :
    (Spec.step α (.exec s st)).1.db.committed = α.db.committed ∧ (Spec.step α (.exec s st)).1.db.log = α.db.log ∧
    ∀ n, n ≠ s → lookup n (Spec.step α (.exec s st)).1.db.sessions = lookup n α.db.sessions := by
  unfold Spec.step
  simp only [Spec.stepCore]
  cases lookup s α.db.sessions with
  | none => exact ⟨rfl, rfl, fun _ _ => rfl⟩
  | some a =>
    refine ⟨rfl, rfl, ?_⟩
    intro n hn
    show lookup n ((s, _) :: erase s α.db.sessions) = _
    rw [lookup_cons_if, lookup_erase_if]
    simp [hn]

/-- **Aborted: as if it never ran.**  ROLLBACK and session drop discard the transaction's record; the committed
    database, the commit log and all other sessions stay exactly as they were — whatever DDL the transaction did. -/
theorem ddl_atomic_abort (α : Spec.State) (s : String) :
    (Spec.step α (.rollback s)).1.db.committed = α.db.committed ∧ (Spec.step α (.rollback s)).1.db.log = α.db.log ∧
    lookup s (Spec.step α (.rollback s)).1.db.sessions = none ∧
    ∀ n, n ≠ s → lookup n (Spec.step α (.rollback s)).1.db.sessions = lookup n α.db.sessions := by
  unfold Spec.step
  simp only [Spec.stepCore, Spec.liftDb, Db.Spec.stepCore]
  cases hl : lookup s α.db.sessions with
  | none => exact ⟨rfl, rfl, hl, fun _ _ => rfl⟩
  | some a =>
    refine ⟨rfl, rfl, ?_, ?_⟩
    · show lookup s (erase s α.db.sessions) = none
      exact lookup_erase_self s _
    · intro n hn
      show lookup n (erase s α.db.sessions) = _
      exact lookup_erase_ne s n _ hn

/-- a refused commit (write-write conflict, or the committed catalog / data would violate a constraint, e.g. two
    live relations of one name) publishes nothing -/
theorem ddl_atomic_refused (α : Spec.State) (a : Db.Spec.ATxn) (e : Err) (h : (α.commitC a).2 = some e) :
    (α.commitC a).1.db.committed = α.db.committed ∧ (α.commitC a).1.db.log = α.db.log := by
  rcases Spec.commitC_cases α a with ⟨h1, _⟩ | ⟨_, h2⟩
  · rw [h1] at h; cases h
  · rw [h2]; exact ⟨rfl, rfl⟩

/-- **Committed: all of it at once.**  A successful commit replaces, in the committed database, exactly the rows the
    transaction wrote — meta rows (its DDL) and data rows (its DML) alike — by the transaction's final version of them;
    every transaction beginning later starts from that database. -/
theorem ddl_atomic_commit (α : Spec.State) (a : Db.Spec.ATxn) (h : (α.commitC a).2 = none) :
    (α.commitC a).1.db.committed = takeOver α.db.committed a.view a.ws := by
  rcases Spec.commitC_cases α a with ⟨_, h2, _⟩ | ⟨⟨e, he⟩, _⟩
  · exact h2
  · rw [he] at h; cases h

/-- store level: in every reachable state of the MVCC machine, the snapshot of any transaction reads the same from the
    store with all stamps of a non-committed transaction `tid` (its meta-row and data-row versions and delete marks)
    physically removed -/
theorem ddl_abort_erases_store (ops : List DOp) (tid tid' : Nat) (t t' : Txn)
    (ht : (run Defects.none ops).1.db.txns[tid]? = some t) (hnc : t.status ≠ .committed)
    (ht' : (run Defects.none ops).1.db.txns[tid']? = some t') (hne : tid' ≠ tid) :
    view Defects.none t'.snap (eraseTxn tid (run Defects.none ops).1.db.rows) =
      view Defects.none t'.snap (run Defects.none ops).1.db.rows := by
  have hc := (dreach_rel ops).1.core.cinv
  apply view_eraseTxn
  have hx : t'.snap.xid = tid' := hc.xid tid' t' ht'
  cases hcb : t'.snap.cb tid with
  | false =>
    rw [Snapshot.sees, hx, hcb, Bool.or_false]
    exact beq_eq_false_iff_ne.2 hne.symm
  | true =>
    exfalso
    have := (hc.snap_clog tid' t' ht' tid (fun e => hne e.symm)).1 hcb
    obtain ⟨en, hen, hen1⟩ := List.mem_map.1 this
    obtain ⟨tu, h1, h2, _⟩ := hc.clog_comm en (List.mem_of_mem_take hen)
    rw [hen1, ht] at h1; cases h1
    exact hnc h2

/-- **A name resolves exactly while the relation exists** in the transaction's view: `resolve` succeeds iff the view
    holds a meta row of that name whose descriptor is on the heap. -/
theorem name_visible_iff_exists (h : Heap) (v : View) (n : String) :
    (resolve h v n).isSome = true ↔
      ∃ r, r ∈ v ∧ r.table = metaName ∧ nameOf r = some n ∧ metaRow v n = some r ∧
        ∃ k ts, handleOf r = some k ∧ h.get k = some ts := by
  unfold resolve
  constructor
  · intro hs
    cases hm : metaRow v n with
    | none => simp [hm] at hs
    | some r =>
      simp only [hm] at hs
      have hmem := List.mem_of_find?_eq_some hm
      have hp := List.find?_some hm
      simp only [Bool.and_eq_true, beq_iff_eq] at hp
      cases hk : handleOf r with
      | none => simp [hk] at hs
      | some k =>
        simp only [hk] at hs
        cases hg : h.get k with
        | none => simp [hg] at hs
        | some ts => exact ⟨r, hmem, hp.1, hp.2, rfl, k, ts, hk, hg⟩
  · rintro ⟨r, _, _, _, hm, k, ts, hk, hg⟩
    simp [hm, hk, hg]

/-- column level: a column name resolves iff a column of that name is in the current descriptor -/
theorem column_visible_iff_exists (ts : TableSchema) (c : String) :
    (colPos ts c).isSome = true ↔ ∃ col ∈ ts.cols, col.name = c := by
  have aux : ∀ (cols : List Col) (k : Nat), (colIndexAux c cols k).isSome = true ↔ ∃ col ∈ cols, col.name = c := by
    intro cols k
    fun_induction colIndexAux c cols k
    · exact ⟨(fun h => nomatch h), fun ⟨_, h, _⟩ => nomatch h⟩
    · next x xs k hx => exact ⟨fun _ => ⟨x, List.mem_cons_self .., beq_iff_eq.1 hx⟩, fun _ => rfl⟩
    · next x xs k hx ih =>
      rw [ih]
      exact ⟨fun ⟨col, hm, hn⟩ => ⟨col, List.mem_cons_of_mem _ hm, hn⟩,
        fun ⟨col, hm, hn⟩ => (List.mem_cons.1 hm).elim (fun e => (hx (beq_iff_eq.2 (e ▸ hn))).elim) (fun hm => ⟨col, hm, hn⟩)⟩
  unfold colPos colIndex
  rw [Option.isSome_map]
  exact aux ts.cols 0

/-- a statement naming a column that is not in the descriptor answers `notfound` (no silent alias):
    e.g. a SELECT with a predicate on a dropped column -/
theorem select_on_missing_column (cat : Catalog) (c j : Nat) (v : View) (t : String) (ts : TableSchema) (p : Pred)
    (ht : findTable cat t = some ts) (hc : colIndex ts p.col = none) :
    planStmt none cat c j v (.sel t (some p)) = ⟨[], .err .notfound⟩ := by
  simp [planStmt, ht, bindPred, hc]

/-- a DML statement on a name that does not resolve answers `notfound` and changes nothing -/
theorem dml_on_missing_name (α : Spec.State) (a : Db.Spec.ATxn) (s : Stmt)
    (h : resolve α.heap a.view (Stmt.table s) = none) : Spec.dml α a s = (a, α.heap, .err .notfound) := by
  simp [Spec.dml, resolveDml, h]

/-- **The names of the live committed relations are unique** (name → relation injective), after every prefix of every
    history: the meta table's `UNIQUE(name)` is re-checked at every commit. -/
theorem catalog_names_unique_spec (ops : List DOp) : namesOk (Spec.run ops).1.db.committed = true :=
  Spec.final_names ops Spec.State.init (by simp [Spec.State.init, Db.Spec.State.init, namesOk, constraintsHold])

/-- the same for the MVCC machine: what a transaction beginning now reads from `$meta` has unique names -/
theorem catalog_wellformed_invariant (ops : List DOp) :
    namesOk (view Defects.none ((run Defects.none ops).1.db.freshSnap Defects.none) (run Defects.none ops).1.db.rows) = true := by
  have hc := (dreach_rel ops).1.core.committed
  have : view Defects.none ((run Defects.none ops).1.db.freshSnap Defects.none) (run Defects.none ops).1.db.rows =
      (Spec.run ops).1.db.committed := hc
  rw [this]
  exact catalog_names_unique_spec ops

/-- CREATE TABLE on a name the transaction can see is refused; on a free name it inserts one meta row and writes a
    descriptor under a fresh internal name -/
theorem create_table_iff (h : Heap) (c : Nat) (v : View) (n : String) (cols : List Col) (us : List (List Nat)) :
    (metaRow v n = none →
      planDdl h c v (.createTable n cols us) =
        ⟨[.ins (c, 0) metaName [.text n, .int c]], .okN 0, some { name := mkName c, cols := cols, uniques := us }⟩) ∧
    (metaRow v n ≠ none → planDdl h c v (.createTable n cols us) = failD .other) := by
  constructor
  · intro hm; simp [planDdl, hm]
  · intro hm
    cases hmr : metaRow v n with
    | none => exact (hm hmr).elim
    | some r => simp [planDdl, hmr]

/-- internal names of different CREATE operations differ: a re-created table never meets the rows of its predecessor -/
theorem mkName_injective (a b : Nat) (h : mkName a = mkName b) : a = b := by
  unfold mkName at h
  have := String.ofList_inj.1 h
  have := congrArg List.length this
  simpa using this

/-- **A dropped name can be reused.**  After DROP TABLE the name does not resolve in the transaction's view; CREATE
    TABLE of that name succeeds there. -/
theorem dropped_name_reusable (h : Heap) (c c' : Nat) (v : View) (n : String) (m : ARow) (ts : TableSchema)
    (cols : List Col) (us : List (List Nat)) (hr : resolve h v n = some (m, ts))
    (huniq : ∀ r ∈ v, r.table = metaName → nameOf r = some n → r.rid = m.rid) :
    (planDdl h c v (.dropTable n)).effs = [.del m.rid] ∧
    metaRow (v.applyAll [.del m.rid]) n = none ∧
    (planDdl h c' (v.applyAll [.del m.rid]) (.createTable n cols us)).out = .okN 0 := by
  have h1 : (planDdl h c v (.dropTable n)).effs = [.del m.rid] := by simp [planDdl, hr]
  have h2 : metaRow (v.applyAll [.del m.rid]) n = none := by
    simp only [View.applyAll, List.foldl_cons, List.foldl_nil, View.apply, metaRow]
    apply List.find?_eq_none.2
    intro r hr'
    simp only [List.mem_filterMap] at hr'
    obtain ⟨r0, hr0, hap⟩ := hr'
    simp only [ARow.apply] at hap
    by_cases hne : r0.rid = m.rid
    · simp [hne] at hap
    · simp only [hne, if_false, Option.some.injEq] at hap
      subst hap
      simp only [Bool.and_eq_true, beq_iff_eq, not_and]
      intro ht hn
      exact hne (huniq r0 hr0 ht hn)
  refine ⟨h1, h2, ?_⟩
  rw [(create_table_iff h c' _ n cols us).1 h2]

/-- every effect of a DDL statement on relation `t` concerns `t`'s meta row, or a data row of `t`'s internal name
    (deleted, or re-inserted with the new shape); CREATE TABLE only inserts its own meta row -/
theorem ddl_frame (h : Heap) (c : Nat) (v : View) (st : DStmt) (t : String) (m : ARow) (ts : TableSchema)
    (hst : st = .addKey t pk cols ∨ st = .addColumn t col d ∨ st = .dropColumn t cn ∨ st = .setNotNull t cn ∨
      st = .dropNotNull t cn ∨ st = .dropTable t)
    (hr : resolve h v t = some (m, ts)) :
    ∀ e ∈ (planDdl h c v st).effs,
      e = .upd m.rid 1 (.int c) ∨ e = .del m.rid ∨
      (∃ r ∈ v, r.table = ts.name ∧ e = .del r.rid) ∨ (∃ j vals, e = .ins (c, j) ts.name vals) := by
  have htg : st.target = some t := by rcases hst with rfl | rfl | rfl | rfl | rfl | rfl <;> rfl
  intro e he
  rcases planDdl_effs h c v st with e0 | ⟨hn, _⟩ | ⟨t', m', ts', ht', hres, hsh⟩
  · rw [e0] at he; cases he
  · rw [htg] at hn; cases hn
  · rw [htg] at ht'
    cases ht'
    rw [hr] at hres
    cases hres
    rcases hsh with e1 | e1 | ⟨f, e1⟩ <;> rw [e1] at he
    · exact Or.inr (Or.inl (List.mem_singleton.1 he))
    · exact Or.inl (List.mem_singleton.1 he)
    · rcases List.mem_cons.1 he with he | he
      · exact Or.inl he
      · exact Or.inr (Or.inr (mem_rewriteRows he))

/-- descriptors are only ever appended: whatever a handle resolved to, it resolves to for ever — a schema change of
    one relation never changes the descriptor another relation's meta row points to -/
theorem heap_append_keeps (h : Heap) (c : Nat) (d : Option TableSchema) (k : Nat) (ts : TableSchema)
    (hk : h.get k = some ts) : (addDesc h c d).get k = some ts := by
  cases d with
  | none => exact hk
  | some x =>
    unfold addDesc Heap.get at *
    rw [List.find?_append]
    cases hf : h.find? (fun e => e.1 == k) with
    | none => simp [hf] at hk
    | some e => simpa [hf] using hk

/-- the effects of ADD COLUMN: the meta row gets the new descriptor (old columns ++ the new one), and every row of the
    table that the transaction sees is re-written with the default (NULL if none) appended -/
theorem add_column_reads_default_or_null (h : Heap) (c : Nat) (v : View) (t : String) (col : Col) (d : Val)
    (m : ARow) (ts : TableSchema) (hr : resolve h v t = some (m, ts)) (hfree : colPos ts col.name = none) :
    planDdl h c v (.addColumn t col d) =
      ⟨.upd m.rid 1 (.int c) :: rewriteRows c ts.name (fun vals => vals ++ [d]) v 0, .okN 0,
        some { ts with cols := ts.cols ++ [col] }⟩ := by
  simp [planDdl, hr, hfree]

/-- the effects of DROP COLUMN: the column leaves the descriptor (key sets containing it go, the others are
    re-indexed) and every row of the table that the transaction sees is re-written without it; the remaining columns
    keep their values (`List.eraseIdx`) -/
theorem drop_column_disappears (h : Heap) (c : Nat) (v : View) (t cn : String) (i : Nat)
    (m : ARow) (ts : TableSchema) (hr : resolve h v t = some (m, ts)) (hi : colPos ts cn = some i) :
    planDdl h c v (.dropColumn t cn) =
      ⟨.upd m.rid 1 (.int c) :: rewriteRows c ts.name (fun vals => vals.eraseIdx i) v 0, .okN 0,
        some { ts with cols := ts.cols.eraseIdx i, uniques := dropFromKeys i ts.uniques }⟩ := by
  simp [planDdl, hr, hi]

/-- what the re-write does to a view, row by row: a row of the table is deleted and re-inserted with `f` applied to
    its values (new row id of this operation), every other row is not mentioned -/
theorem rewriteRows_spec (c : Nat) (tname : String) (f : List Val → List Val) : ∀ (rows : List ARow) (j : Nat),
    (rewriteRows c tname f rows j).length = 2 * (rows.filter (fun r => r.table == tname)).length ∧
    ∀ r ∈ rows, r.table = tname →
      Effect.del r.rid ∈ rewriteRows c tname f rows j ∧ ∃ k, Effect.ins (c, k) tname (f r.vals) ∈ rewriteRows c tname f rows j := by
  intro rows j
  fun_induction rewriteRows c tname f rows j
  · exact ⟨rfl, fun _ h => nomatch h⟩
  · next r rs j ht ih =>
    rw [List.filter_cons_of_pos (p := fun r : ARow => r.table == tname) ht]
    refine ⟨by rw [List.length_cons, List.length_cons, List.length_cons, ih.1]; omega, fun x hx hxt => ?_⟩
    rcases List.mem_cons.1 hx with rfl | hx
    · exact ⟨List.mem_cons_self .., j, List.mem_cons_of_mem _ (List.mem_cons_self ..)⟩
    · obtain ⟨g1, k, g2⟩ := ih.2 x hx hxt
      exact ⟨List.mem_cons_of_mem _ (List.mem_cons_of_mem _ g1), k, List.mem_cons_of_mem _ (List.mem_cons_of_mem _ g2)⟩
  · next r rs j ht ih =>
    rw [List.filter_cons_of_neg (p := fun r : ARow => r.table == tname) ht]
    refine ⟨ih.1, fun x hx hxt => ?_⟩
    rcases List.mem_cons.1 hx with rfl | hx
    · exact (ht (beq_iff_eq.2 hxt)).elim
    · exact ih.2 x hx hxt

/-- **Existing rows stay readable with the new shape.**  Applying the re-write to a view (row ids unique, none from
    this operation yet) leaves every row of every other table where it was and replaces the table's rows, in order, by
    rows with `f` applied to their values — `f = (· ++ [default])` for ADD COLUMN, `f = (·.eraseIdx i)` for DROP COLUMN. -/
theorem rewrite_view (c : Nat) (tname : String) (f : List Val → List Val) (v : View)
    (hu : v.Pairwise (fun a b => a.rid ≠ b.rid)) (hf : ∀ r ∈ v, r.rid.1 ≠ c) :
    View.applyAll v (rewriteRows c tname f v 0) =
      v.filter (fun r => !(r.table == tname)) ++ newRows c tname f v 0 := by
  have := rewrite_view_aux c tname f v 0 [] [] (by simp) hu hf
  simpa using this

/-- the new rows: one per row of the table, same order, values `f vals`, all in the table -/
theorem newRows_spec (c : Nat) (tname : String) (f : List Val → List Val) : ∀ (rows : List ARow) (j : Nat),
    (newRows c tname f rows j).map (·.vals) = (rows.filter (fun r => r.table == tname)).map (fun r => f r.vals) ∧
    ∀ x ∈ newRows c tname f rows j, x.table = tname := by
  intro rows j
  fun_induction newRows c tname f rows j
  · exact ⟨rfl, fun _ h => nomatch h⟩
  · next r rs j ht ih =>
    rw [List.filter_cons_of_pos (p := fun r : ARow => r.table == tname) ht, List.map_cons, List.map_cons, ih.1]
    exact ⟨rfl, fun x hx => (List.mem_cons.1 hx).elim (fun e => e ▸ rfl) (ih.2 x)⟩
  · next r rs j ht ih =>
    rw [List.filter_cons_of_neg (p := fun r : ARow => r.table == tname) ht]
    exact ih

/-- the full view-level statements (meta-row update followed by the re-write, as one transaction's view) are
    consequences of `add_column_reads_default_or_null` / `drop_column_disappears` (the effect lists),
    `rewrite_view` and `newRows_spec`; the composition itself is not among the theorems of this file -/
def add_column_view_statement : Prop :=
  ∀ (h : Heap) (c : Nat) (v : View) (t : String) (col : Col) (d : Val) (m : ARow) (ts : TableSchema),
    resolve h v t = some (m, ts) → colPos ts col.name = none →
    v.Pairwise (fun a b => a.rid ≠ b.rid) → (∀ r ∈ v, r.rid.1 ≠ c) →
    ((View.applyAll v (planDdl h c v (.addColumn t col d)).effs).filter (fun r => r.table == ts.name)).map (·.vals) =
      ((v.filter (fun r => r.table == ts.name)).map (fun r => r.vals ++ [d]))

/-! ## witnesses: the shipped defects break the property -/

def tdef : DStmt := .createTable "t" [⟨"k", .big, false, false⟩, ⟨"v", .int, false, false⟩] []

/-- an ALTER inside a rolled-back transaction stays: the new meta-row version carries the creating transaction's id -/
theorem updateKeepsInserterXmin_witness :
    (run { updateKeepsInserterXmin := true }
      [.tick, .auto tdef, .begin "s1", .exec "s1" (.setNotNull "t" "v"), .rollback "s1",
       .auto (.dml (.ins "t" [[.int 1, .null]]))]).2
    ≠ (Spec.run
      [.tick, .auto tdef, .begin "s1", .exec "s1" (.setNotNull "t" "v"), .rollback "s1",
       .auto (.dml (.ins "t" [[.int 1, .null]]))]).2 := by
  decide

/-- two open transactions create the same name and both commit: two live relations of one name -/
theorem uniqueNotRecheckedAtCommit_witness :
    namesOk (view { uniqueNotRecheckedAtCommit := true }
      ((run { uniqueNotRecheckedAtCommit := true }
        [.tick, .begin "s1", .begin "s2", .exec "s1" tdef, .exec "s2" tdef, .commit "s1", .commit "s2"]).1.db.freshSnap
          { uniqueNotRecheckedAtCommit := true })
      (run { uniqueNotRecheckedAtCommit := true }
        [.tick, .begin "s1", .begin "s2", .exec "s1" tdef, .exec "s2" tdef, .commit "s1", .commit "s2"]).1.db.rows) = false := by
  decide

/-! flag `commitChecksInsertedKeysOnly`: the name of a table a transaction creates is in its write set -/

/-- two open transactions create the same name: the second committer is refused, one live relation of that name -/
theorem commitChecksInsertedKeysOnly_second_creator_refused :
    (run { commitChecksInsertedKeysOnly := true }
      [.tick, .begin "s1", .begin "s2", .exec "s1" tdef, .exec "s2" tdef, .commit "s1", .commit "s2"]).2.getLast?
      = some (.refused .constraint) ∧
    namesOk (view { commitChecksInsertedKeysOnly := true }
      ((run { commitChecksInsertedKeysOnly := true }
        [.tick, .begin "s1", .begin "s2", .exec "s1" tdef, .exec "s2" tdef, .commit "s1", .commit "s2"]).1.db.freshSnap
          { commitChecksInsertedKeysOnly := true })
      (run { commitChecksInsertedKeysOnly := true }
        [.tick, .begin "s1", .begin "s2", .exec "s1" tdef, .exec "s2" tdef, .commit "s1", .commit "s2"]).1.db.rows) = true := by
  decide

/-- … but the name stays in the write set when the table is dropped again in the same transaction: its commit is
    refused although the committed catalog would hold the name once (the specification commits) -/
theorem commitChecksInsertedKeysOnly_witness :
    (run { commitChecksInsertedKeysOnly := true }
      [.tick, .begin "s1", .begin "s2", .exec "s1" tdef, .exec "s1" (.dropTable "t"), .exec "s2" tdef, .commit "s2",
       .commit "s1"]).2.getLast? = some (.refused .constraint) ∧
    (Spec.run
      [.tick, .begin "s1", .begin "s2", .exec "s1" tdef, .exec "s1" (.dropTable "t"), .exec "s2" tdef, .commit "s2",
       .commit "s1"]).2.getLast? = some .ok := by
  decide

/-! flag `createRefusedWhileNameHeld`: CREATE TABLE is refused while a transaction the creator does not see holds the name -/

/-- two open transactions create the same name: the second CREATE is refused with a conflict when it runs (the
    specification lets it run and refuses the second COMMIT); the first creator's table is the one live relation -/
theorem createRefusedWhileNameHeld_witness :
    (run { createRefusedWhileNameHeld := true, commitChecksInsertedKeysOnly := true }
      [.tick, .begin "s1", .begin "s2", .exec "s1" tdef, .exec "s2" tdef]).2.getLast? = some (.stmt (.err .conflict)) ∧
    (Spec.run [.tick, .begin "s1", .begin "s2", .exec "s1" tdef, .exec "s2" tdef]).2.getLast?
      ≠ some (.stmt (.err .conflict)) ∧
    namesOk (view { createRefusedWhileNameHeld := true, commitChecksInsertedKeysOnly := true }
      ((run { createRefusedWhileNameHeld := true, commitChecksInsertedKeysOnly := true }
        [.tick, .begin "s1", .begin "s2", .exec "s1" tdef, .exec "s2" tdef, .commit "s1", .commit "s2"]).1.db.freshSnap
          { createRefusedWhileNameHeld := true, commitChecksInsertedKeysOnly := true })
      (run { createRefusedWhileNameHeld := true, commitChecksInsertedKeysOnly := true }
        [.tick, .begin "s1", .begin "s2", .exec "s1" tdef, .exec "s2" tdef, .commit "s1", .commit "s2"]).1.db.rows) = true := by
  decide

/-- … also when the holder then rolls back: the refused creator has to try again -/
theorem createRefusedWhileNameHeld_holder_rolls_back :
    (run { createRefusedWhileNameHeld := true, commitChecksInsertedKeysOnly := true }
      [.tick, .begin "s1", .begin "s2", .exec "s1" tdef, .exec "s2" tdef, .rollback "s1", .exec "s2" tdef]).2.drop 4
      = [.stmt (.err .conflict), .ok, (Spec.run [.tick, .begin "s2", .exec "s2" tdef]).2.getLast?.getD .none] := by
  decide

end AxVerif.Ddl.C15
