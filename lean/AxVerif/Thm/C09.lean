/-
  C09 — Clean close and reopen preserves everything.

  Machine: `Model/Reopen.lean` — the MVCC store of `Model/Db.lean` (row versions with creator ids and delete marks,
  transaction table, snapshots as the coordinator computes them) with a changing catalog, the hidden row ids, object ids,
  VACUUM, and `reopen` = `openDb cfg ∘ closeDb` (checkpoint image: rows, catalog rows with `next_row_id`, page-zero
  counters, the set of rolled-back ids, creation-time settings; open: fresh coordinator that knows only the reloaded
  rolled-back ids, empty commit log, settings from page zero, pool size from the argument).

  `runW D R ideal cfg ops` runs a history `ops : List WOp` (any statements of any number of sessions, DDL, VACUUM, any
  number of `reopen leak cfg'` at any positions) from an empty database created with `cfg`.  `ideal = false` is the machine
  that really closes and opens; `ideal = true` is the machine that never restarts (at a `reopen` it only drops the open
  sessions, rolls back what is still unfinished and runs the empty transaction that recovery runs).
  `D : Db.Defects` are the defect flags of the MVCC store (C03/C04/C07's findings); every theorem below holds for EVERY
  `D`, in particular for `Db.Defects.none` and for the flags that describe the shipped code.  `R : Reopen.Defects` are the
  defect flags of close/open; the property theorems are for `Defects.none`, the `…_witness` theorems show per flag that
  the property fails: a history (`openTxnAtCloseSurvives`), one step from a hand-built state (`versionCounterU8`), a
  statement about every state with a large rolled-back id (`abortedBitmap8192`).

  Proofs: `Lemmas/Reopen.lean` (bisimulation through an erasure of what no operation reads: the history of finished
  transactions and the commit log before the oldest running transaction).
-/
import AxVerif.Lemmas.Reopen
namespace AxVerif.Reopen.C09
open AxVerif.Db AxVerif.Reopen

/-- **Main theorem.**  For every history — any statements of any sessions, DDL, VACUUM, any number of close/open cycles
    at arbitrary points, with sessions open or not at the close, any configuration passed to each `open` — the machine
    that closes and reopens gives every operation exactly the answer of the machine that never restarts: the same rows
    for every read (those after a reopen with the same row ids), the same outcome of every write, commit and DDL
    statement, the same object ids, the same transaction ids. -/
theorem reopen_observational_identity (D : Db.Defects) (cfg : Config) (ops : List WOp) :
    (runW D Defects.none false cfg ops).2 = (runW D Defects.none true cfg ops).2 :=
  (runFromW_rel D ops _ _ [] (RelW.refl_of_wf (wf_init []))).1

/-- … and the two machines end in states that agree on every row version and delete mark, the catalog, the row-id
    counters, the object ids and the settings; their transaction tables have the same length and the same statuses. -/
theorem reopen_same_state (D : Db.Defects) (cfg : Config) (ops : List WOp) :
    let w := (runW D Defects.none false cfg ops).1
    let v := (runW D Defects.none true cfg ops).1
    w.db.rows = v.db.rows ∧ w.db.cat = v.db.cat ∧ w.nextRow = v.nextRow ∧ w.rmeta = v.rmeta ∧ w.objs = v.objs ∧
    w.lastObject = v.lastObject ∧ w.nextTxn = v.nextTxn ∧ w.hdr = v.hdr ∧ w.env = v.env ∧
    ∀ st u, statusIs w.db.txns st u = statusIs v.db.txns st u := by
  have h := (runFromW_rel D ops _ _ [] (RelW.refl_of_wf (wf_init []) : RelW (WState.init cfg) (WState.init cfg))).2
  exact ⟨h.db.rows, h.db.cat, h.nextRow, h.rmeta, h.objs, h.lastObject, h.db.length, h.hdr, h.env, h.db.statusIs⟩

/-- **Any number of cycles with work in between**: `h₁, reopen, h₂, reopen, …, hₙ, reopen, tail` answers like the
    never-restarting machine (instance of the main theorem, spelled out). -/
theorem iterate_reopen (D : Db.Defects) (cfg : Config) (cycles : List (List WOp × Bool × Config)) (tail : List WOp) :
    (runW D Defects.none false cfg (cycles.flatMap (fun c => c.1 ++ [WOp.reopen c.2.1 c.2.2]) ++ tail)).2 =
    (runW D Defects.none true cfg (cycles.flatMap (fun c => c.1 ++ [WOp.reopen c.2.1 c.2.2]) ++ tail)).2 :=
  reopen_observational_identity D cfg _

def Quiescent (w : WState) : Prop := idsWith .active w.db.txns 0 = []

instance (w : WState) : Decidable (Quiescent w) := inferInstanceAs (Decidable (_ = _))

/-- **State form.**  What a transaction beginning after `open (close w)` can find out — catalog with column
    definitions and constraints, every table's contents with row ids — is what it finds in `w` with every transaction
    that was still open rolled back … -/
theorem reopen_view_identity (D : Db.Defects) (cfg : Config) (w : WState) :
    observeAll D (openDb cfg (closeDb Defects.none w)) = observeAll D { w with db := quiesce w.db } := by
  have hf : (openDb cfg (closeDb Defects.none w)).db.freshSnap D = (quiesce w.db).freshSnap D :=
    freshSnap_of_E_eq D (open_close_E cfg w)
  unfold observeAll tableView
  rw [hf]
  rfl

/-- … and for a quiescent state it is what it finds in `w` itself. -/
theorem reopen_view_identity_quiescent (D : Db.Defects) (cfg : Config) (w : WState) (hq : Quiescent w) :
    observeAll D (openDb cfg (closeDb Defects.none w)) = observeAll D w := by
  -- nothing is open, so rolling back what is open changes no entry of the transaction table
  have ht : w.db.txns.map deact = w.db.txns := by
    conv => rhs; rw [← List.map_id w.db.txns]
    apply List.map_congr_left
    intro t ht
    obtain ⟨i, hi⟩ := List.mem_iff_getElem?.1 ht
    refine if_neg fun ha => ?_
    have hm := (mem_idsWith0 _ _ _).2 ⟨t, hi, ha⟩
    rw [hq] at hm; cases hm
  rw [reopen_view_identity, quiesce_eq, ht]
  rfl

example : Quiescent (WState.init ⟨4096, 64, 2, 3, 2⟩) := by decide

/-- **The configuration handed to `open` changes no observation**: replace the configuration of every `reopen` of a
    history by any other one (`f`) — every answer stays the same, including the settings the pager reports after the
    open (they come from page zero: `Model/Config.lean`, `Thm/C12.config_roundtrip`).  Holds for every setting of the
    defect flags and for both machines. -/
theorem open_config_irrelevant (D : Db.Defects) (R : Defects) (ideal : Bool) (f : Config → Config) (cfg : Config)
    (ops : List WOp) :
    (runW D R ideal cfg ops).2 = (runW D R ideal cfg (ops.map (WOp.setCfg f))).2 :=
  runFromW_envEq D R ideal f ops _ _ [] rfl

/-- state form: two configurations lead to states that differ in the size of the worker pool and in nothing else -/
theorem open_config_only_pool (R : Defects) (c₁ c₂ : Config) (w : WState) :
    openDb c₁ (closeDb R w) = { openDb c₂ (closeDb R w) with
      env := { (openDb c₂ (closeDb R w)).env with pool := c₁.poolSize } } := rfl

theorem open_config_same_observations (D : Db.Defects) (R : Defects) (c₁ c₂ : Config) (w : WState) :
    observeAll D (openDb c₁ (closeDb R w)) = observeAll D (openDb c₂ (closeDb R w)) := rfl

/-- the three counters are persisted: close/open changes none of them (for every setting of the defect flags) -/
theorem counters_survive_reopen (R : Defects) (cfg : Config) (w : WState) :
    (openDb cfg (closeDb R w)).nextRow = w.nextRow ∧ (openDb cfg (closeDb R w)).lastObject = w.lastObject ∧
    (openDb cfg (closeDb R w)).nextTxn = w.nextTxn := by
  simp [openDb, closeDb, WState.nextTxn]

/-- in every reachable state every row id in use lies below its table's `next_row_id` and every object id in use below
    `last_stored_object` (`IdInv`), whatever the history and the number of reopens -/
theorem ids_below_counters (D : Db.Defects) (R : Defects) (ideal : Bool) (cfg : Config) (ops : List WOp) :
    IdInv (runW D R ideal cfg ops).1 :=
  runFromW_inv D R ideal IdInv (fun _ op h => stepW_idInv D R ideal h op) ops _ [] (idInv_init cfg)

/-- what is handed out next is the counter: the transaction id … -/
theorem next_txn_id (D : Db.Defects) (R : Defects) (ideal : Bool) (w : WState) :
    (stepW D R ideal w .tid).2 = .tid w.nextTxn := rfl

/-- … the object id of a new table … -/
theorem next_object_id (D : Db.Defects) (R : Defects) (ideal : Bool) (w : WState) (ts : TableSchema)
    (h : (findTable w.db.cat ts.name).isSome = false) :
    (stepW D R ideal w (.create ts)).2 = .created w.lastObject := by
  simp [stepW, stepCoreW, h]

/-- … and the row id of a new row of table `t`. -/
theorem next_row_id (nr : List (String × Nat)) (m : List RowMeta) (r : Row) (n : Nat) (h : lookup r.table nr = some n) :
    (assign nr m [r]).2 = m ++ [⟨r.rid, r.table, n⟩] := by
  simp [assign, h]

/-- **Fresh ids after a reopen.**  In every reachable state `w`, after `open (close w)` the next row id of every table
    is above every row id in use in that table, the next object id is above every object id in use, and the next
    transaction id is the one `w` would have handed out (all transaction ids in use are below it: they are positions in
    the transaction table). -/
theorem ids_fresh_after_reopen (D : Db.Defects) (R : Defects) (ideal : Bool) (cfg cfg' : Config) (ops : List WOp) :
    let w := (runW D R ideal cfg ops).1
    let w' := openDb cfg' (closeDb R w)
    (∀ m ∈ w.rmeta, ∃ n, lookup m.table w'.nextRow = some n ∧ m.rowId < n) ∧
    (∀ p ∈ w.objs, p.2 < w'.lastObject) ∧ w'.nextTxn = w.nextTxn := by
  have h := ids_below_counters D R ideal cfg ops
  exact ⟨h.rows, h.objs, by simp [openDb, closeDb, WState.nextTxn]⟩

/-- transaction ids are never handed out twice: the next id never decreases along a history, reopens included -/
theorem txn_ids_increase (D : Db.Defects) (ideal : Bool) (cfg : Config) (ops later : List WOp) :
    let w := (runW D Defects.none ideal cfg ops).1
    w.nextTxn ≤ (runFromW D Defects.none ideal w later []).1.nextTxn :=
  (runFromW_wf_ka D ideal later _ [] (runFromW_wf_ka D ideal ops _ [] (wfW_init cfg)).1).2.1

/-- a rollback removes nothing physically: the versions and delete marks of a rolled-back transaction stay in the
    tables (until VACUUM), and …-/
theorem rollback_keeps_rows (σ : Db.State) (tid : Nat) : (σ.abortTxn tid).rows = σ.rows := rfl

/-- … a snapshot filters them through the set of rolled-back ids: a transaction beginning in a state in which `u` is
    recorded as rolled back does not see `u`'s work. -/
theorem snapshot_ignores_rolled_back (D : Db.Defects) (σ : Db.State) (u : Nat) (h : statusIs σ.txns .aborted u = true) :
    (σ.freshSnap D).sees u = false :=
  fresh_not_sees_aborted D σ u h

/-- `close` writes the rolled-back and the still-open transactions into the persistent rolled-back set, `open`
    reloads it: both kinds are rolled back afterwards. -/
theorem rolled_back_reloaded (cfg : Config) (w : WState) (u : Nat)
    (h : statusIs w.db.txns .aborted u = true ∨ statusIs w.db.txns .active u = true) :
    statusIs (openDb cfg (closeDb Defects.none w)).db.txns .aborted u = true :=
  reloaded_aborted cfg w u h

/-- **Rolled-back data is still invisible after a reopen, and stays so.**  Take any reachable state `w`, a transaction
    `u` that is rolled back or unfinished in it; close, open with any configuration, and run any further history
    (with further reopens): no transaction that begins afterwards sees anything `u` wrote or deleted. -/
theorem rolled_back_stays_invisible (D : Db.Defects) (ideal : Bool) (cfg cfg' : Config) (ops later : List WOp) (u : Nat) :
    let w := (runW D Defects.none ideal cfg ops).1
    (statusIs w.db.txns .aborted u = true ∨ statusIs w.db.txns .active u = true) →
    ((runFromW D Defects.none ideal (openDb cfg' (closeDb Defects.none w)) later []).1.db.freshSnap D).sees u = false := by
  intro w h
  have h1 := rolled_back_reloaded cfg' w u h
  have hw : WfW (openDb cfg' (closeDb Defects.none w)) := ⟨0, wf_open cfg' _ w⟩
  exact fresh_not_sees_aborted D _ u ((runFromW_wf_ka D ideal later _ [] hw).2.2 u h1)

/-- the same without a reopen at the start: once rolled back, invisible to every later snapshot of every later state -/
theorem rolled_back_never_returns (D : Db.Defects) (ideal : Bool) (cfg : Config) (ops later : List WOp) (u : Nat) :
    let w := (runW D Defects.none ideal cfg ops).1
    statusIs w.db.txns .aborted u = true →
    ((runFromW D Defects.none ideal w later []).1.db.freshSnap D).sees u = false := by
  intro w h
  have hw : WfW w := (runFromW_wf_ka D ideal ops _ [] (wfW_init cfg)).1
  exact fresh_not_sees_aborted D _ u ((runFromW_wf_ka D ideal later _ [] hw).2.2 u h)

def cfg0 : Config := ⟨4096, 10000, 2, 3, 2⟩
def tT : TableSchema := ⟨"t", [⟨"k", .big, false, false⟩, ⟨"v", .int, false, false⟩], []⟩

/-- a session with an INSERT is open when the handle is dropped: after the reopen its row is committed data -/
theorem openTxnAtCloseSurvives_witness :
    (runW Db.Defects.none { openTxnAtCloseSurvives := true } false cfg0
      [.create tT, .db (.begin "s1"), .db (.exec "s1" (.ins "t" [[.int 2, .int 20]])), .reopen true cfg0, .obs "t"]).2
    ≠ (runW Db.Defects.none Defects.none true cfg0
      [.create tT, .db (.begin "s1"), .db (.exec "s1" (.ins "t" [[.int 2, .int 20]])), .reopen true cfg0, .obs "t"]).2 := by
  decide

/-- a table that has taken 255 rows: the next INSERT re-versions its catalog row a 256th time -/
def w255 : WState :=
  { (WState.init cfg0) with db := { Db.State.init [tT] with txns := [⟨⟨0, some 0, [], []⟩, .committed, [], 0⟩] },
                             nextRow := [("t", 255)] }

/-- with the flag the 256th INSERT panics, without it the row is inserted -/
theorem versionCounterU8_witness :
    (stepW Db.Defects.none { versionCounterU8 := true } false w255 (.db (.auto (.ins "t" [[.int 1, .int 1]])))).2 = .panic ∧
    (stepW Db.Defects.none Defects.none false w255 (.db (.auto (.ins "t" [[.int 1, .int 1]])))).2 = .db (.stmt (.okN 1)) := by
  decide

/-- **The aborted bitmap.**  With `abortedBitmap8192` every rolled-back transaction with an id of 8192 or more whose id is
    not above the last committed one is invisible before close/open and visible — committed data — afterwards (general
    form: for every state and every such transaction; `wBig` below is an instance). -/
theorem abortedBitmap8192_witness (cfg : Config) (w : WState) (u : Nat) (hu : statusIs w.db.txns .aborted u = true)
    (hbig : 8192 ≤ u) (hlc : u ≤ w.db.lastCommitted) :
    (w.db.freshSnap Db.Defects.none).sees u = false ∧
    ((openDb cfg (closeDb { abortedBitmap8192 := true } w)).db.freshSnap Db.Defects.none).sees u = true := by
  refine ⟨fresh_not_sees_aborted _ _ u hu, ?_⟩
  obtain ⟨t, ht, _⟩ := (statusIs_iff _ _ _).1 hu
  -- the id does not fit into the bitmap, so it is not reloaded and the fresh coordinator takes `u` for committed
  have hc : u ∉ (closeDb { abortedBitmap8192 := true } w).aborted := fun h => by
    have : u < 8192 := of_decide_eq_true (List.mem_filter.1 h).2
    omega
  have hst : ∀ st, st ≠ .committed →
      (idsWith st (openDb cfg (closeDb { abortedBitmap8192 := true } w)).db.txns 0).contains u = false := by
    intro st hne
    rw [Bool.eq_false_iff, Ne, List.contains_iff_mem, mem_idsWith0, open_close_get, ht]
    simpa [reloadTxn, hc] using hne.symm
  have hlc' : ¬ (w.db.lastCommitted < u) := by omega
  have h3 : (openDb cfg (closeDb { abortedBitmap8192 := true } w)).db.lastCommitted = w.db.lastCommitted := rfl
  simp only [State.freshSnap, Snapshot.sees, Snapshot.cb, Db.Defects.none, Bool.false_and, Bool.false_eq_true, if_false,
    hst .active (by decide), hst .aborted (by decide), h3, hlc', decide_false, Bool.not_false, Bool.and_self, Bool.or_true]

/-- a state after 8192 committed transactions (ids 0 … 8191), a rolled-back INSERT by transaction 8192 and one more commit -/
def wBig : WState :=
  { (WState.init cfg0) with
    db := { Db.State.init [tT] with
            txns := List.replicate 8192 ⟨⟨0, some 0, [], []⟩, .committed, [], 0⟩ ++
                    [⟨⟨8192, some 8191, [], []⟩, .aborted, [], 0⟩, ⟨⟨8193, some 8191, [], [8192]⟩, .committed, [], 0⟩],
            lastCommitted := 8193,
            rows := [⟨(1, 0), "t", [⟨8192, [.int 2, .int 20]⟩], []⟩] },
    nextRow := [("t", 1)], rmeta := [⟨(1, 0), "t", 0⟩] }

example : statusIs wBig.db.txns .aborted 8192 = true ∧ 8192 ≤ 8192 ∧ 8192 ≤ wBig.db.lastCommitted := by
  -- read off entry 8192 without running through the 8192 entries in front of it
  have key : ∀ (n : Nat) (a : Txn) (l : List Txn), (List.replicate n a ++ l)[n]? = l[0]? := fun n a l => by
    rw [List.getElem?_append_right (Nat.le_of_eq List.length_replicate), List.length_replicate, Nat.sub_self]
  exact ⟨(statusIs_iff _ _ _).2 ⟨_, key _ _ _, rfl⟩, Nat.le_refl _, Nat.le_succ _⟩

end AxVerif.Reopen.C09
