/-
  C04 — Transactions read a consistent snapshot (snapshot isolation).

  All property theorems are about `Defects.none` (= `D0`) and hold for EVERY history `ops : List Op` over every
  catalog: any number of sessions, statements, tables, rows, any interleaving.  The proofs are the invariant
  (`CInv`, `SInv`) and the simulation (`Rel`, `step_ok`) of `Lemmas/Db.lean`, `Lemmas/DbSim.lean`,
  `Lemmas/DbHist.lean`.  `run D cat ops` = (final state, outputs) of the MVCC machine, `Spec.run` the same for the
  abstract machine in which every transaction works on `base ⊕ own effects` (`Spec.ATxn.view`).
  The witness theorems show, per defect flag, a concrete history on which the property fails.
-/
import AxVerif.Lemmas.DbHist
namespace AxVerif.Db.C04
open AxVerif.Db

def catT : Catalog := [{ name := "t", cols := [⟨"k", .big, false, false⟩, ⟨"v", .int, false, false⟩] }]

def kEq (n : Int) : Option Pred := some ⟨"k", .eq, .int n⟩

/-- setup used by the witnesses: table `t`, warm-up transaction, one committed row (1,10) -/
def pre : List Op := [.tick, .tick, .auto (.ins "t" [[.int 1, .int 10]])]

/-- an uncommitted (and later rolled back) UPDATE is read by a concurrent transaction -/
theorem updateKeepsInserterXmin_witness :
    (run { updateKeepsInserterXmin := true } catT
      (pre ++ [.begin "s1", .begin "s2", .exec "s2" (.upd "t" "v" false (.int 99) (kEq 1)), .exec "s1" (.sel "t" none)])).2
    ≠ (Spec.run catT
      (pre ++ [.begin "s1", .begin "s2", .exec "s2" (.upd "t" "v" false (.int 99) (kEq 1)), .exec "s1" (.sel "t" none)])).2 := by
  decide +kernel

/-- two concurrent transactions delete the same row and both commit -/
theorem writeSetNeverRecorded_witness :
    (run { writeSetNeverRecorded := true } catT
      (pre ++ [.begin "s1", .begin "s2", .exec "s1" (.del "t" (kEq 1)), .exec "s2" (.del "t" (kEq 1)), .commit "s1", .commit "s2"])).2
    ≠ (Spec.run catT
      (pre ++ [.begin "s1", .begin "s2", .exec "s1" (.del "t" (kEq 1)), .exec "s2" (.del "t" (kEq 1)), .commit "s1", .commit "s2"])).2 := by
  decide +kernel

/-- a session opened before any transaction with id > 0 committed sees rows committed later -/
theorem xmaxNoneSeesAll_witness :
    (run { xmaxNoneSeesAll := true } catT
      [.tick, .begin "s1", .exec "s1" (.sel "t" none), .auto (.ins "t" [[.int 1, .int 10]]), .exec "s1" (.sel "t" none)]).2
    ≠ (Spec.run catT
      [.tick, .begin "s1", .exec "s1" (.sel "t" none), .auto (.ins "t" [[.int 1, .int 10]]), .exec "s1" (.sel "t" none)]).2 := by
  decide +kernel

/-- a transaction that deletes an updated row sees it again, with the old value -/
theorem ownDeleteWalksDeltas_witness :
    (run { ownDeleteWalksDeltas := true, updateKeepsInserterXmin := true } catT
      (pre ++ [.auto (.upd "t" "v" false (.int 11) none), .begin "s1", .exec "s1" (.del "t" none), .exec "s1" (.sel "t" none)])).2
    ≠ (Spec.run catT
      (pre ++ [.auto (.upd "t" "v" false (.int 11) none), .begin "s1", .exec "s1" (.del "t" none), .exec "s1" (.sel "t" none)])).2 := by
  decide +kernel

/-- the second of two concurrent deleters overwrites the first one's mark; when it rolls back, the committed delete is lost -/
theorem deleteMarkSingleSlot_witness :
    (run { deleteMarkSingleSlot := true } catT
      (pre ++ [.begin "s1", .begin "s2", .exec "s1" (.del "t" (kEq 1)), .exec "s2" (.del "t" (kEq 1)), .commit "s1", .rollback "s2",
               .auto (.sel "t" none)])).2
    ≠ (Spec.run catT
      (pre ++ [.begin "s1", .begin "s2", .exec "s1" (.del "t" (kEq 1)), .exec "s2" (.del "t" (kEq 1)), .commit "s1", .rollback "s2",
               .auto (.sel "t" none)])).2 := by
  decide +kernel

/-- **Refinement.**  On every history the MVCC machine (version chains, snapshots computed as the coordinator
    computes them, commit-time validation) produces exactly the outputs of the abstract snapshot-isolation machine:
    the same rows for every read, the same outcome for every write, commit, batch. -/
theorem read_is_snapshot (cat : Catalog) (ops : List Op) :
    (run Defects.none cat ops).2 = (Spec.run cat ops).2 :=
  refine_run cat ops

/-- what the abstract machine answers to a read: the query evaluated on
    `committed database at the reader's begin ⊕ the reader's own writes so far` -/
theorem spec_read_is_base_plus_own (α : Spec.State) (s t : String) (p : Option Pred) (a : Spec.ATxn)
    (ts : TableSchema) (bp : Option (Nat × CmpOp × Val))
    (hs : lookup s α.sessions = some a) (ht : findTable α.cat t = some ts) (hp : bindPred ts p = .ok bp) :
    (Spec.step α (.exec s (.sel t p))).2 = .stmt (.rows (evalQuery t bp (a.base.applyAll a.effs))) := by
  rw [spec_read_out, hs]
  simp [planStmt, ht, hp, Spec.ATxn.view]

/-- `begin` records the committed database of that moment as the transaction's base, with no own writes -/
theorem spec_begin_takes_committed (α : Spec.State) (s : String) :
    lookup s (Spec.step α (.begin s)).1.sessions = some ⟨α.committed, [], α.log.length⟩ :=
  lookup_cons_self s _ _

/-- nothing another session or an autocommit statement does (writes, commits, rollbacks) changes a transaction's
    base or its own writes -/
theorem spec_others_do_not_touch (α : Spec.State) (s : String) (op : Op) (h : op.keeps s = true) :
    lookup s (Spec.step α op).1.sessions = lookup s α.sessions :=
  keeps_session α s op h

/-- a statement of the transaction appends exactly its own effects (none when it fails) -/
theorem spec_own_write_extends (cat : Catalog) (c : Nat) (a : Spec.ATxn) (st : Stmt) :
    (Spec.stmt cat c a 0 st).1 = a ∨
    (Spec.stmt cat c a 0 st).1 = { a with effs := a.effs ++ (planStmt none cat c 0 a.view st).effs } := by
  unfold Spec.stmt
  simp only
  split
  · exact Or.inl rfl
  · exact Or.inr rfl

/-- **Repeatable read.**  The same query issued twice by a transaction, with anything in between except its own
    writes and its own begin/commit/rollback (other sessions may write, commit, abort; autocommit statements and
    batches may run), returns the same answer. -/
theorem repeatable (cat : Catalog) (pre mid : List Op) (s t : String) (p : Option Pred)
    (hmid : ∀ op ∈ mid, op.keeps s = true) :
    ∃ o, (run Defects.none cat (pre ++ .exec s (.sel t p) :: (mid ++ [.exec s (.sel t p)]))).2[pre.length]? = some o ∧
         (run Defects.none cat (pre ++ .exec s (.sel t p) :: (mid ++ [.exec s (.sel t p)]))).2[pre.length + 1 + mid.length]? = some o := by
  rw [read_is_snapshot, spec_run_outs]
  exact spec_repeatable _ pre mid s t p hmid

example : (Op.commit "s2").keeps "s1" = true := by decide
example : (Op.auto (.ins "t" [[.int 1]])).keeps "s1" = true := by decide
example : (Op.exec "s1" (.sel "t" none)).keeps "s1" = true := by decide
example : (Op.exec "s1" (.del "t" none)).keeps "s1" = false := by decide

/-- **No dirty, no future, no rolled-back data.**  In every reachable state, whatever a transaction's snapshot reads
    from a row is a version of that row created by the reader itself or by a transaction that is committed and
    entered the commit log before the reader began (`startTs` = number of commits at its begin); and no delete mark
    of the reader or of such a transaction is on the row. -/
theorem no_dirty_no_future (cat : Catalog) (ops : List Op) (tid : Nat) (t : Txn) (r : Row) (vals : List Val)
    (ht : (run Defects.none cat ops).1.txns[tid]? = some t) (hv : rowVisible Defects.none t.snap r = some vals) :
    (∃ v ∈ r.versions, v.vals = vals ∧
      (v.creator = tid ∨
        (v.creator ∈ ((run Defects.none cat ops).1.clog.take t.startTs).map (·.1) ∧
         ∃ tu, (run Defects.none cat ops).1.txns[v.creator]? = some tu ∧ tu.status = .committed))) ∧
    (∀ d ∈ r.deleters, d ≠ tid ∧ d ∉ ((run Defects.none cat ops).1.clog.take t.startTs).map (·.1)) := by
  have hc := (reach_run cat ops).core.cinv
  have hsees := snap_sees_iff hc ht
  have hv' : rowVisible D0 t.snap r = some vals := hv
  rw [rowVisible_none] at hv'
  by_cases hd : r.deleters.any t.snap.sees = true
  · simp [hd] at hv'
  · simp only [hd, Bool.false_eq_true, if_false] at hv'
    constructor
    · cases hf : r.versions.find? (fun v => t.snap.sees v.creator) with
      | none => rw [hf] at hv'; cases hv'
      | some v =>
        rw [hf] at hv'
        refine ⟨v, List.mem_of_find?_eq_some hf, Option.some.inj hv', ?_⟩
        have hsv : t.snap.sees v.creator = true := by simpa using List.find?_some hf
        exact ((hsees _).1 hsv).imp_right (fun hm => ⟨hm, isCommitted_of_mem_clog hc hm⟩)
    · intro d hdm
      have hns : ¬ t.snap.sees d = true := fun h => hd (List.any_eq_true.2 ⟨d, hdm, h⟩)
      exact ⟨fun e => hns ((hsees d).2 (Or.inl e)), fun hm => hns ((hsees d).2 (Or.inr hm))⟩

theorem writes_are_recorded (cat : Catalog) (ops : List Op) (r : Row) (u : Nat)
    (hr : r ∈ (run Defects.none cat ops).1.rows) (hu : u ∈ r.owners) :
    ∃ t, (run Defects.none cat ops).1.txns[u]? = some t ∧ r.rid ∈ t.ws := by
  exact (reach_run cat ops).core.sinv.stamps r hr u hu

theorem overlaps_symm {a b : List Rid} (h : overlaps a b = true) : overlaps b a = true := by
  unfold overlaps at *
  obtain ⟨x, hx, hb⟩ := List.any_eq_true.1 h
  exact List.any_eq_true.2 ⟨x, by simpa using hb, by simpa using hx⟩

/-- **First committer wins.**  In every reachable state: if two different transactions are both committed and their
    write sets share a row, then one of them had committed before the other one's snapshot was taken — they were
    not concurrent.  Contrapositive: of two concurrent transactions that wrote the same row at most one commits
    (the later `commit` answers `conflict` and aborts). -/
theorem first_committer_wins (cat : Catalog) (ops : List Op) (u v : Nat) (tu tv : Txn)
    (hu : (run Defects.none cat ops).1.txns[u]? = some tu) (hv : (run Defects.none cat ops).1.txns[v]? = some tv)
    (hne : u ≠ v) (hcu : tu.status = .committed) (hcv : tv.status = .committed)
    (hov : overlaps tu.ws tv.ws = true) :
    tv.snap.cb u = true ∨ tu.snap.cb v = true := by
  have hc := (reach_run cat ops).core.cinv
  -- of two committed transactions sharing a row, the one that stands first in the commit log is in the other's snapshot
  have key : ∀ {u v : Nat} {tv : Txn} {i j : Nat} {eu ev : Nat × List Rid},
      (run Defects.none cat ops).1.txns[v]? = some tv → u ≠ v →
      (run Defects.none cat ops).1.clog[i]? = some eu → (run Defects.none cat ops).1.clog[j]? = some ev →
      eu.1 = u → ev.1 = v → i < j → overlaps eu.2 ev.2 = true → tv.snap.cb u = true := by
    intro u v tv i j eu ev hv hne hi hj heu hev hlt hov
    obtain ⟨t, ht, hst⟩ := hc.fcw i j eu ev hlt hi hj hov
    rw [hev, hv] at ht; cases ht
    refine (hc.snap_clog v tv hv u hne).2 (List.mem_map.2 ⟨eu, List.mem_iff_getElem?.2 ⟨i, ?_⟩, heu⟩)
    rw [List.getElem?_take]; simp [hst, hi]
  obtain ⟨eu, heu, heu1⟩ := List.mem_map.1 (hc.comm_clog u tu hu hcu)
  obtain ⟨ev, hev, hev1⟩ := List.mem_map.1 (hc.comm_clog v tv hv hcv)
  obtain ⟨i, hi⟩ := List.mem_iff_getElem?.1 heu
  obtain ⟨j, hj⟩ := List.mem_iff_getElem?.1 hev
  obtain ⟨tu', h1, _, h3⟩ := hc.clog_comm eu heu
  obtain ⟨tv', h1', _, h3'⟩ := hc.clog_comm ev hev
  rw [heu1, hu] at h1; cases h1
  rw [hev1, hv] at h1'; cases h1'
  have hij : i ≠ j := by
    intro e; subst e
    rw [hi] at hj; cases hj
    exact hne (heu1.symm.trans hev1)
  rcases Nat.lt_or_gt_of_ne hij with hlt | hgt
  · exact Or.inl (key hv hne hi hj heu1 hev1 hlt (by rw [← h3, ← h3']; exact hov))
  · exact Or.inr (key hu hne.symm hj hi hev1 heu1 hgt (by rw [← h3, ← h3']; exact overlaps_symm hov))

/-- history `h` explains the observation: these are the operations, and the MVCC model answers them as observed -/
def Explains (cat : Catalog) (h : List Op) (obs : Observed) : Prop :=
  h = obs.ops ∧ (run Defects.none cat h).2 = obs.outs

/-- every answer of the history is the abstract machine's: each read = committed-at-begin ⊕ own writes, each commit
    decided by first-committer-wins -/
def SnapshotIsolated (cat : Catalog) (h : List Op) : Prop :=
  (run Defects.none cat h).2 = (Spec.run cat h).2

theorem checkSI_sound (cat : Catalog) (obs : Observed) (hc : checkSI cat obs = true) :
    ∃ h, Explains cat h obs ∧ SnapshotIsolated cat h := by
  refine ⟨obs.ops, ⟨rfl, ?_⟩, read_is_snapshot cat obs.ops⟩
  rw [read_is_snapshot]
  simpa [checkSI] using hc

/-- the checker accepts exactly the observations the MVCC model can produce -/
theorem checkSI_complete (cat : Catalog) (ops : List Op) :
    checkSI cat ⟨ops, (run Defects.none cat ops).2⟩ = true := by
  simp [checkSI, read_is_snapshot]

/-- first committer wins on the abstract machine, where it is immediate: a commit is refused when a write set committed since
    the transaction began shares a row with its own -/
theorem spec_commit_refused_on_conflict (α : Spec.State) (a : Spec.ATxn) (h : Spec.conflict α.log a = true) :
    α.commitTxn a = (α, false) := by
  simp [Spec.State.commitTxn, h]

end AxVerif.Db.C04
