/-
  C16 — Any statement yields a result or an error — never a panic, never a hang.

  Part 1: property theorems for the worker pool every statement runs on (`Model/Pool.lean`; helper lemmas in
  `Lemmas/Pool.lean`).  Part 2 (end of file): what the statement-level model of engine `fuzz` (`Model/Fuzz.lean`)
  answers — the oracle of the correspondence.  All statements quantify over every pool size, every sequence of submitted jobs and
  every schedule (= every sequence of enabled steps) of the model; nothing is bounded.
  `Defects.none` is the intended pool, `{ panicKillsWorker := true }` the shipped worker loop.
-/
import AxVerif.Lemmas.Pool
import AxVerif.Model.Fuzz
namespace AxVerif.C16
open AxVerif AxVerif.Pool

/-- Workers are conserved: every worker is idle, running a job, or dead. -/
theorem pool_workers_conserved (D : Defects) (n : Nat) (tr : List Step) (s : State)
    (hr : run D (init n) tr = some s) : s.live + s.dead = n :=
  (inv_reachable hr).workers

/-- Without the defect the number of live workers never changes: no job — whatever it does — costs a worker. -/
theorem pool_workers_invariant (n : Nat) (tr : List Step) (s : State)
    (hr : run Defects.none (init n) tr = some s) : s.live = n ∧ s.dead = 0 := by
  have h := inv_reachable hr
  have hd := h.dead0 rfl
  have hw := h.workers
  unfold State.live
  omega

/-- No job is ever answered twice, and an answer is always the one belonging to the submitted job
    (`ok` → ok, `err` → error, `panic` → error). -/
theorem pool_at_most_once (D : Defects) (n : Nat) (tr : List Step) (s : State)
    (hr : run D (init n) tr = some s) (i : Nat) :
    (s.resp.map (·.1)).count i ≤ 1 ∧
    ∀ r, response s i = some r → ∃ k, (submitted tr)[i]? = some k ∧ r = respOf k :=
  ⟨count_resp_le_one (inv_reachable hr) i, fun r h => (inv_reachable hr).respKind (i, r) (response_some h)⟩

/-- A submitted job is answered, running or queued — it cannot vanish. -/
theorem pool_no_job_vanishes (D : Defects) (n : Nat) (tr : List Step) (s : State)
    (hr : run D (init n) tr = some s) (i : Nat) (hi : i < (submitted tr).length) :
    i ∈ s.resp.map (·.1) ∨ i ∈ s.busy.map (·.id) ∨ i ∈ s.queue.map (·.id) := by
  have h := inv_reachable hr
  have hm : i ∈ allIds s := by
    rw [h.perm.mem_iff, List.mem_range, h.next_eq]; exact hi
  rw [allIds, List.mem_append, List.mem_append] at hm
  exact hm

/-- A state is quiescent exactly when no internal step (take / finish) is enabled. -/
theorem pool_progress (D : Defects) (s : State) :
    quiescent s = false ↔ ∃ st, st.internal = true ∧ (step D s st).isSome = true := by
  constructor
  · intro hq
    by_cases hb : s.busy = []
    · have hq' : ¬ (s.queue = [] ∨ s.idle = 0) := fun h => by
        rw [(quiescent_iff s).mpr ⟨hb, h⟩] at hq; cases hq
      exact ⟨.take, rfl, take_enabled (fun h => hq' (.inl h)) (Nat.pos_of_ne_zero fun h => hq' (.inr h))⟩
    · exact ⟨.finish 0, rfl, finish_enabled D hb⟩
  · intro ⟨st, hint, hen⟩
    cases hqs : quiescent s with
    | false => rfl
    | true =>
      obtain ⟨hb, hq⟩ := (quiescent_iff s).mp hqs
      cases st with
      | submit k => cases hint
      | take => rw [step, take_eq_none.mpr hq] at hen; cases hen
      | finish i => rw [step, finish_none_of_busy_nil D hb i] at hen; cases hen

/-- A non-empty queue with a live idle worker always has an enabled step, and so has a running job. -/
theorem pool_enabled (D : Defects) (s : State) :
    (s.queue ≠ [] → 0 < s.idle → (step D s .take).isSome = true) ∧
    (s.busy ≠ [] → (step D s (.finish 0)).isSome = true) :=
  ⟨fun h1 h2 => take_enabled h1 h2, fun h => finish_enabled D h⟩

/-- Every internal step lowers the measure `2·|queue| + |running|` by exactly one. -/
theorem pool_internal_step_decreases (D : Defects) (s s' : State) (st : Step)
    (hint : st.internal = true) (hs : step D s st = some s') : measure s' + 1 = measure s := by
  cases st with
  | submit k => cases hint
  | take => exact take_measure hs
  | finish i => exact finish_measure hs

/-- Termination: a schedule of internal steps from `s` has exactly `measure s - measure s'` steps, hence at most
    `measure s`: without new submissions the pool cannot run forever. -/
theorem pool_terminates (D : Defects) : ∀ (tr : List Step) (s s' : State),
    (∀ st ∈ tr, st.internal = true) → run D s tr = some s' → tr.length + measure s' = measure s := by
  intro tr
  induction tr with
  | nil =>
    intro s s' _ hr
    cases hr
    exact Nat.zero_add _
  | cons st tr ih =>
    intro s s' hint hr
    obtain ⟨s1, hs1, hr1⟩ := run_cons.mp hr
    obtain ⟨hst, htr⟩ := List.forall_mem_cons.mp hint
    rw [List.length_cons, ← pool_internal_step_decreases D s s1 st hst hs1, ← ih s1 s' htr hr1]
    exact Nat.add_right_comm _ _ _

/-- Without the defect and with at least one worker, quiescent means: nothing queued, nothing running. -/
theorem pool_quiescent_iff_measure_zero (n : Nat) (hn : 0 < n) (tr : List Step) (s : State)
    (hr : run Defects.none (init n) tr = some s) : quiescent s = true ↔ measure s = 0 := by
  rw [measure_eq_zero]
  exact ⟨quiescent_none (inv_reachable hr) hn, fun ⟨hb, hq⟩ => (quiescent_iff s).mpr ⟨hb, Or.inl hq⟩⟩

/-- **Every job is answered exactly once.**  For every pool size `n > 0`, every sequence of submissions and every
    schedule: once the pool is quiescent (which every schedule that keeps taking enabled steps reaches, by
    `pool_terminates` and `pool_progress`), each submitted job has exactly one answer, and it is the answer of
    that job — a panicking job is answered with an error like any other failure. -/
theorem pool_every_job_answered (n : Nat) (hn : 0 < n) (tr : List Step) (s : State)
    (hr : run Defects.none (init n) tr = some s) (hq : quiescent s = true)
    (i : Nat) (hi : i < (submitted tr).length) :
    (s.resp.map (·.1)).count i = 1 ∧ response s i = some (respOf ((submitted tr)[i])) := by
  have h := inv_reachable hr
  obtain ⟨hb, hq0⟩ := quiescent_none h hn hq
  -- nothing is running or queued: the answered ids are all the ids
  have hperm := taken_perm h (t := s.next) (by rw [hq0]; rfl) (by rw [hq0]; rfl)
  rw [hb, List.map_nil, List.append_nil, h.next_eq] at hperm
  exact ⟨by rw [hperm.count_eq, List.count_range, if_pos hi],
    response_of_answered h (hperm.mem_iff.mpr (List.mem_range.mpr hi)) (List.getElem?_eq_getElem hi)⟩

/-- **Fair schedules terminate with every job answered.**  From any reachable state of the defect-free pool, any
    schedule of internal steps has at most `measure s` steps; one that cannot be extended has exactly that many,
    and then every job submitted so far has its one answer. -/
theorem pool_fair_schedule_answers_all (n : Nat) (hn : 0 < n) (tr tr1 : List Step) (s s' : State)
    (hr : run Defects.none (init n) tr = some s)
    (hint : ∀ st ∈ tr1, st.internal = true) (hr1 : run Defects.none s tr1 = some s') :
    tr1.length ≤ measure s ∧
    (quiescent s' = true ↔ tr1.length = measure s) ∧
    (quiescent s' = true → ∀ i (hi : i < (submitted tr).length),
      (s'.resp.map (·.1)).count i = 1 ∧ response s' i = some (respOf ((submitted tr)[i]))) := by
  have hlen := pool_terminates Defects.none tr1 s s' hint hr1
  have hrun : run Defects.none (init n) (tr ++ tr1) = some s' := run_append hr hr1
  have hsub : submitted (tr ++ tr1) = submitted tr := submitted_append_internal tr tr1 hint
  have hqm := pool_quiescent_iff_measure_zero n hn (tr ++ tr1) s' hrun
  refine ⟨hlen ▸ Nat.le_add_right _ _, ?_, ?_⟩
  · rw [hqm, ← hlen, Nat.left_eq_add]
  · intro hq i
    rw [← hsub]
    exact pool_every_job_answered n hn (tr ++ tr1) s' hrun hq i

/-- What the line-protocol driver computes (`exec`) is the end state of a real schedule of the state machine:
    it submits exactly the jobs of the case, in order, and ends quiescent. -/
theorem exec_is_a_schedule (D : Defects) (n : Nat) (ops : List Op) :
    ∃ tr, run D (init n) tr = some (exec D n ops) ∧ submitted tr = (ops.map Op.kinds).flatten ∧
      quiescent (exec D n ops) = true :=
  exec_run_from D ops (init n) rfl

/-- Hence the spec line of every `seq` case is: each job answered with its own answer, all workers alive. -/
theorem exec_answers_all (n : Nat) (hn : 0 < n) (ops : List Op) :
    outcomes (exec Defects.none n ops) = ((ops.map Op.kinds).flatten).map (fun k => some (respOf k)) ∧
    (exec Defects.none n ops).live = n := by
  obtain ⟨tr, hr, hs, hq⟩ := exec_is_a_schedule Defects.none n ops
  refine ⟨?_, (pool_workers_invariant n tr _ hr).1⟩
  have hnext := (inv_reachable hr).next_eq
  rw [← hs]
  apply List.ext_getElem
  · simp [outcomes, hnext]
  · intro i h1 h2
    have hi : i < (submitted tr).length := by simpa using h2
    have := (pool_every_job_answered n hn tr _ hr hq i hi).2
    simp [outcomes, this]

/-- **Witness of `panicKillsWorker`.**  On a pool of any size `n`, after `n` jobs that panic (each of them answered
    with an error), no worker is left, and a job submitted then is never answered: whatever happens afterwards —
    any schedule, any further submissions — its caller stays blocked. -/
theorem panicKillsWorker_witness (n : Nat) (k : Kind) :
    ∃ s, run shipped (init n) (killAll n ++ [.submit k]) = some s ∧ s.live = 0 ∧
      ∀ tr s', run shipped s tr = some s' → response s' n = none ∧ s'.live = 0 := by
  obtain ⟨resp', h⟩ := killAll_run n 0 0 []
  rw [Nat.zero_add] at h
  have hrun : run shipped (init n) (killAll n ++ [.submit k]) = some (submit ⟨0, n, [], [], resp', n⟩ k) :=
    run_append h rfl
  refine ⟨_, hrun, rfl, fun tr s' hr' => ?_⟩
  obtain ⟨h1, h2, h3⟩ := stuck_run shipped tr _ s' rfl rfl hr'
  refine ⟨response_eq_none.mpr ?_, by rw [State.live, h1, h2]; rfl⟩
  -- the job waits in the queue under the id `n`, and the answered ids are those before the queue
  have hperm := taken_perm (inv_reachable hrun) (t := n) rfl rfl
  rw [h3]
  intro hmem
  exact absurd (List.mem_range.mp (hperm.mem_iff.mp (List.mem_append_left _ hmem))) (Nat.lt_irrefl n)

/-- the same on the driver's canonical schedule, pool of 2: the third call is lost; without the defect it is answered -/
theorem panicKillsWorker_witness_concrete :
    outcomes (exec shipped 2 [.call .panic, .call .panic, .call .ok])
      = [some .panicAsError, some .panicAsError, none] ∧
    (exec shipped 2 [.call .panic, .call .panic, .call .ok]).live = 0 ∧
    outcomes (exec Defects.none 2 [.call .panic, .call .panic, .call .ok])
      = [some .panicAsError, some .panicAsError, some .ok] := by decide +kernel

/-- a single panicking job already costs a worker in the shipped loop -/
theorem panicKillsWorker_one_panic : (exec shipped 2 [.call .ok, .call .panic, .call .ok]).live = 1 := by decide +kernel

/-! ### the hypotheses above are satisfiable -/

/-- a non-trivial schedule on 2 workers: three jobs queued, two run concurrently, the younger one ends first -/
example : ∃ s, run Defects.none (init 2)
    [.submit .panic, .submit .ok, .submit .err, .take, .take, .finish 1, .take, .finish 0, .finish 0] = some s ∧
    quiescent s = true ∧ s.resp = [(1, .ok), (0, .panicAsError), (2, .err)] := ⟨_, rfl, rfl, rfl⟩

example : (∀ st ∈ [Step.take, Step.finish 0], st.internal = true) := by decide

/-- **The shipped defect, exactly, for every schedule.**  With the shipped worker loop on a pool of `n` workers, once
    the pool is quiescent the fate of every job is fixed by the submission order alone: job `i` is answered (with its
    own answer) iff fewer than `n` panicking jobs were submitted before it; all other callers stay blocked.  No
    schedule can do better or worse — which is why the model with the flag on predicts one definite line per case. -/
theorem pool_shipped_schedule_independent (n : Nat) (tr : List Step) (s : State)
    (hr : run shipped (init n) tr = some s) (hq : quiescent s = true)
    (i : Nat) (hi : i < (submitted tr).length) :
    response s i =
      if panicsBefore (submitted tr) i < n then some (respOf ((submitted tr)[i])) else none := by
  have h := invS_reachable hr
  obtain ⟨t, ht, hfifo, hh⟩ := h.fifo
  obtain ⟨hb, hqq⟩ := (quiescent_iff s).mp hq
  have hperm := taken_perm h.base ht hfifo
  rw [hb] at hperm
  simp only [List.map_nil, List.append_nil] at hperm
  have hnext := h.base.next_eq
  rcases Nat.lt_or_ge i t with hlt | hge
  · -- taken, hence (nothing is running) answered
    have hmem : i ∈ s.resp.map (·.1) := hperm.mem_iff.mpr (List.mem_range.mpr hlt)
    rw [if_pos (hh i hlt)]
    exact response_of_answered h.base hmem (List.getElem?_eq_getElem hi)
  · -- still queued: no worker is left, and `n` panicking jobs precede it
    have hnot : i ∉ s.resp.map (·.1) := fun hm =>
      Nat.not_lt.mpr hge (List.mem_range.mp (hperm.mem_iff.mp hm))
    have hqne : s.queue ≠ [] := by
      intro h0
      rw [h0, List.length_nil, Nat.add_zero, hnext] at ht
      exact Nat.not_lt.mpr hge (ht ▸ hi)
    have hidle : s.idle = 0 := by
      rcases hqq with h0 | h0
      · exact absurd h0 hqne
      · exact h0
    have hw := h.base.workers
    rw [hb, hidle] at hw
    simp only [List.length_nil, Nat.add_zero, Nat.zero_add] at hw
    have hpt := panics_taken h ht hfifo
    rw [hb] at hpt
    simp only [List.map_nil, List.countP_nil, Nat.add_zero] at hpt
    have hle : n ≤ panicsBefore (submitted tr) i := by
      rw [← hw, ← hpt]; exact panicsBefore_mono (submitted tr) hge
    rw [if_neg (Nat.not_lt.mpr hle), response_eq_none.mpr hnot]

/-- the two descriptions of the defect agree on a concrete run: pool of 2, jobs panic, ok, panic, ok, err -/
example : outcomes (exec shipped 2 [.burst [.panic, .ok, .panic, .ok, .err]])
    = [some .panicAsError, some .ok, some .panicAsError, none, none] := by decide +kernel

/-! ## Part 2 — the statement-level oracle (engine `fuzz`)

The model functions are total by construction (structural recursion on a depth budget and on the syntax tree): for
every case line `Fuzz.stepLine` returns a line, and for a well-formed one it returns exactly one word per op. -/

theorem fuzz_word_of_op (schema : List Fuzz.Table) (st : Fuzz.St) (op : Fuzz.Op) :
    (Fuzz.stepOp schema st op).2 ∈ ["ok-or-error", "rows", "error"] := by
  cases op with
  | x b => simp [Fuzz.stepOp]
  | q q =>
    simp only [Fuzz.stepOp]
    cases Fuzz.classify schema q st.tainted st.touched with
    | none => simp
    | some c => cases c <;> simp

/-- One word per op, and every word is a result class or `ok-or-error` — the model never answers "panic", "hang" or
    anything else, for any sequence of ops on any schema. -/
theorem fuzz_one_word_per_op (schema : List Fuzz.Table) : ∀ (ops : List Fuzz.Op) (st : Fuzz.St),
    (Fuzz.runOps schema st ops).length = ops.length ∧
    ∀ w ∈ Fuzz.runOps schema st ops, w ∈ ["ok-or-error", "rows", "error"] := by
  intro ops st
  fun_induction Fuzz.runOps schema st ops with
  | case1 st => exact ⟨rfl, nofun⟩
  | case2 st o os st' w hstep ih =>
    refine ⟨congrArg (· + 1) ih.1, fun x hx => ?_⟩
    rcases List.mem_cons.mp hx with rfl | hx
    · have := fuzz_word_of_op schema st o
      rwa [hstep] at this
    · exact ih.2 x hx

/-- The oracle for an arbitrary string offered as SQL: "a result or an error", whatever the bytes are; and from then
    on nothing is predicted about later statements (the string may have changed anything). -/
theorem fuzz_string_is_ok_or_error (schema : List Fuzz.Table) (st : Fuzz.St) (b : Bytes) :
    (Fuzz.stepOp schema st (.x b)).2 = "ok-or-error" ∧ (Fuzz.stepOp schema st (.x b)).1.tainted = true := by
  simp [Fuzz.stepOp]

theorem fuzz_no_prediction_when_tainted (schema : List Fuzz.Table) (q : Fuzz.Q) (touched : List String) :
    Fuzz.classify schema q true touched = none := by
  simp [Fuzz.classify]

/-- A statement on a table the schema does not have is an error. -/
theorem fuzz_unknown_table_is_error (schema : List Fuzz.Table) (q : Fuzz.Q) (touched : List String)
    (h : Fuzz.findTable schema q.table = none) : Fuzz.classify schema q false touched = some .error := by
  simp [Fuzz.classify, h]

/-- A statement that names a column its table does not have is an error. -/
theorem fuzz_unknown_column_is_error (schema : List Fuzz.Table) (q : Fuzz.Q) (touched : List String) (t : Fuzz.Table)
    (ht : Fuzz.findTable schema q.table = some t) (c : String) (hc : c ∈ q.cols) (hn : t.hasCol c = false) :
    Fuzz.classify schema q false touched = some .error := by
  have : (q.cols.any fun c => !t.hasCol c) = true := List.any_eq_true.mpr ⟨c, hc, by simp [hn]⟩
  simp [Fuzz.classify, ht, this]

/-- `rows` is predicted only for statements that are well bound: the table exists, every named column exists, and
    there is no sub-query. -/
theorem fuzz_rows_only_if_well_bound (schema : List Fuzz.Table) (q : Fuzz.Q) (tainted : Bool) (touched : List String)
    (h : Fuzz.classify schema q tainted touched = some .rows) :
    tainted = false ∧ ∃ t, Fuzz.findTable schema q.table = some t ∧ (∀ c ∈ q.cols, t.hasCol c = true) ∧ q.subs = [] := by
  -- the exits of `classify`, in its own order; only a `sel` that passes every test answers `rows`
  revert h
  fun_cases Fuzz.classify schema q tainted touched with
  | case7 hnt t tbl items wh group having order limit ht hcols hsubs hshape =>
    rw [if_pos hshape]
    exact nofun
  | case8 hnt t tbl items wh group having order limit hdiv0 ht hcols hsubs hshape =>
    rw [if_neg hshape, if_pos hdiv0]
    exact nofun
  | case9 hnt t tbl items wh group having order limit hdiv0 hplain ht hcols hsubs hshape =>
    refine fun _ => ⟨Bool.eq_false_iff.2 hnt, t, ht, fun c hc => ?_, ?_⟩
    · simpa using List.any_eq_false.1 (Bool.eq_false_iff.2 hcols) c hc
    · simp only [Bool.or_eq_true, Bool.not_eq_true', not_or, Bool.not_eq_false] at hshape
      exact List.isEmpty_iff.1 hshape.1.1.1
  | case10 hnt t tbl items wh group having order limit hdiv0 hplain ht hcols hsubs hshape =>
    rw [if_neg hshape, if_neg hdiv0, if_neg hplain]
    exact nofun
  | _ => exact nofun

/-- Integer `/ 0` and `% 0` in the select list of a plain SELECT over an untouched (hence non-empty) table is an error
    — the spec side of the finding that the implementation panics there. -/
theorem fuzz_division_by_zero_is_error (schema : List Fuzz.Table) (tbl : String) (items : Fuzz.EList)
    (order : Option String) (touched : List String) (t : Fuzz.Table)
    (ht : Fuzz.findTable schema tbl = some t)
    (hcols : ∀ c ∈ (Fuzz.Q.sel tbl items none none none order none).cols, t.hasCol c = true)
    (hsubs : (Fuzz.Q.sel tbl items none none none order none).subs = [])
    (hu : tbl ∉ touched)
    (hs : items.all (Fuzz.strictArith t) = true) (hd : items.any Fuzz.hasDiv0 = true) :
    Fuzz.classify schema (.sel tbl items none none none order none) false touched = some .error := by
  have h1 : ((Fuzz.Q.sel tbl items none none none order none).cols.any fun c => !t.hasCol c) = false := by
    rw [List.any_eq_false]
    intro c hc
    simp [hcols c hc]
  have ht' : Fuzz.findTable schema (Fuzz.Q.sel tbl items none none none order none).table = some t := ht
  simp [Fuzz.classify, ht', h1, hsubs, hu, hs, hd]

/-- the hypotheses are satisfiable: `SELECT a / 0 FROM t1` on `t1(id BIGINT, a INT)` -/
example : ∃ t, Fuzz.findTable [⟨"t1", [("id", 'I'), ("a", 'i')]⟩] "t1" = some t ∧
    (Fuzz.EList.cons (.bin "div" (.col "a") (.int 0)) .nil).all (Fuzz.strictArith t) = true ∧
    (Fuzz.EList.cons (.bin "div" (.col "a") (.int 0)) .nil).any Fuzz.hasDiv0 = true :=
  ⟨_, rfl, by decide +kernel, by decide +kernel⟩

end AxVerif.C16
