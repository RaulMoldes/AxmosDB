/-
  C01 — Acknowledged commits survive a crash at any later instant.

  Protocol-level theorems about the write-ahead-logging machine of `Model/Recovery.lean`; the tie to the code is the
  `crash` engine (every crash point of real workloads judged against `expectedAfter`) and `checkR1` applied to the
  real I/O trace.  All statements quantify over arbitrary event lists / crash points / histories.
-/
import AxVerif.Lemmas.RecoveryR1
namespace AxVerif.Recovery
open AxVerif AxVerif.Durable

/-- **Recovery after a crash at any point is redo of exactly the durable history.**
    Whatever was appended, forced and checkpointed, in any order, for any number of transactions:
    crash + recovery yields the replay, from the empty database, of the records made durable so far. -/
theorem recover_crash_eq_replay_durable (es : List Ev) (hw : WfRecs (appended es)) :
    recover (crash (run es)) = replay [] (durable es) := by
  obtain ⟨old, hist, cdur, stab, quie⟩ := inv_exists es hw
  have hd : durable es = old ++ (run es).log := by
    rw [durable_eq, cdur, hist, List.append_assoc, ← List.append_assoc old, List.take_left']
    rfl
  have hdis : TxDisjoint old (run es).log := by
    have hw' : WfRecs (old ++ (run es).log) := by
      have : appended es = (old ++ (run es).log) ++ (run es).buf := by rw [hist]
      rw [this] at hw; exact hw.left
    exact txDisjoint_of_wf hw' quie
  simp only [recover, crash]
  rw [hd, replay_append _ _ _ hdis, stab]

/-- Rule R1 (checked on the event trace) implies that the COMMIT record of every acknowledged transaction is durable. -/
theorem acked_commit_is_durable (es : List Ev) (h : checkR1 es = true) (t : Nat) (ht : Ev.ack t ∈ es) :
    Rec.commit t ∈ durable es :=
  (r1Inv es).acks (by rw [← checkR1_eq]; exact h) t ht

/-- **C01.** For every trace obeying R1, every crash point `k` and every transaction acknowledged before it:
    the recovered state is the redo of a durable log `D` in which the transaction is a winner, and no record of the
    transaction lies outside `D` (all of its operations are redone). -/
theorem acked_commit_survives_any_crash (es : List Ev) (hw : WfRecs (appended es)) (hr : checkR1 es = true)
    (k : Nat) (t : Nat) (ht : Ev.ack t ∈ es.take k) :
    ∃ D rest, recover (crash (run (es.take k))) = replay [] D ∧
      appended es = D ++ rest ∧ Rec.commit t ∈ D ∧ isWinner D t = true ∧ ∀ r ∈ rest, r.tid ≠ t := by
  have hwk := wf_appended_take hw k
  have hc := acked_commit_is_durable (es.take k)
    (checkR1_prefix (es.take k) (es.drop k) ((List.take_append_drop k es).symm ▸ hr)) t ht
  obtain ⟨rest, happ, hrest⟩ := durable_commit_closed es hw k t hc
  exact ⟨durable (es.take k), rest, recover_crash_eq_replay_durable _ hwk, happ, hc,
    isWinner_of_commit_mem (durable_eq _ ▸ wf_take _ hwk) hc, hrest⟩

/-- The commit procedure of the code (append COMMIT, force, acknowledge) obeys R1 for every history. -/
theorem exec_obeys_R1 (h : List HOp) : checkR1 (events h) = true := by
  have gen : ∀ (h : List HOp) (st : R1State), ((events h).foldl r1Step (st, true)).2 = true := by
    intro h
    induction h with
    | nil => intro st; rfl
    | cons op h ih =>
      intro st
      simp only [events, List.map_cons, List.flatten_cons, List.foldl_append]
      cases op with
      | write t d => simpa [HOp.events, r1Step, events] using ih st
      | commit t =>
        simp only [HOp.events, List.foldl_cons, List.foldl_nil, r1Step]
        have : (List.contains ((t :: st.pending) ++ st.safe) t) = true := by simp
        simpa [this, events] using ih _
      | rollback t => simpa [HOp.events, r1Step, events] using ih _
      | checkpoint => simpa [HOp.events, r1Step, events] using ih _
  exact gen h _

/-- **C01 for the code's commit procedure**: in every history, at every crash point, a transaction whose commit has
    returned is a winner of the recovered log, with all its records. -/
theorem commit_returned_is_durable (h : List HOp) (hw : WfRecs (appended (events h))) (k t : Nat)
    (ht : Ev.ack t ∈ (events h).take k) :
    ∃ D rest, recover (crash (run ((events h).take k))) = replay [] D ∧
      appended (events h) = D ++ rest ∧ Rec.commit t ∈ D ∧ isWinner D t = true ∧ ∀ r ∈ rest, r.tid ≠ t :=
  acked_commit_survives_any_crash _ hw (exec_obeys_R1 h) k t ht

/-- Witness (why R1 matters): acknowledging before the force loses the commit at the crash point in between. -/
theorem ack_before_force_witness :
    let es := [Ev.append (.op 1 (.crt "t")), Ev.append (.commit 1), Ev.ack 1, Ev.force]
    checkR1 es = false ∧ recover (crash (run (es.take 3))) = [] ∧ recover (crash (run es)) = [("t", [])] := by
  decide

/-- Non-vacuity: a two-transaction history with a checkpoint in the middle is well-formed and obeys R1. -/
example :
    let h := [HOp.write 1 (.crt "t"), .commit 1, .checkpoint, .write 2 (.ins "t" 1 10), .write 3 (.ins "t" 2 20),
              .commit 3, .rollback 2]
    WfRecs (appended (events h)) ∧ checkR1 (events h) = true ∧
      recover (crash (run (events h))) = [("t", [(2, 20)])] := by
  refine ⟨by decide, by decide, by decide⟩

end AxVerif.Recovery
