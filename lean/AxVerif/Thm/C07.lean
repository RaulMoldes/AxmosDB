/-
  C07 — UNIQUE, PRIMARY KEY and NOT NULL always hold in committed data.

  Theorems for `Defects.none`, for EVERY history over every catalog (single- and multi-column UNIQUE / PRIMARY KEY,
  NOT NULL; `TableSchema.keySets`, `Col.notNull`).  `constraintsHold cat v` is the decidable statement "no row of
  `v` has NULL in a NOT NULL column and no two rows of a table agree on a fully non-NULL key".
  They rest on the refinement `refine_run` (MVCC machine = abstract machine `Db.Spec` on every history), in which
  a commit is refused when the committed database would stop satisfying a constraint.
-/
import AxVerif.Lemmas.DbCons
namespace AxVerif.Db.C07
open AxVerif.Db

/-- **Committed states satisfy the constraints** (abstract machine): after every prefix of every history. -/
theorem spec_committed_states_satisfy_constraints (cat : Catalog) (ops : List Op) :
    constraintsHold cat (Spec.final (Spec.State.init cat) ops).committed = true := by
  have h := spec_final_holds ops (Spec.State.init cat) (by simp [Spec.State.init, constraintsHold])
  rw [spec_final_cat] at h
  exact h

/-- **Committed states satisfy the constraints** (MVCC machine): in every reachable state, what a transaction
    beginning now would read — the live committed rows — satisfies every declared constraint.  (A history is a
    list of operations; every prefix of a history is a history, so this covers every point in time.) -/
theorem committed_states_satisfy_constraints (cat : Catalog) (ops : List Op) :
    constraintsHold cat
      (view Defects.none ((run Defects.none cat ops).1.freshSnap Defects.none) (run Defects.none cat ops).1.rows) = true := by
  have hc : view D0 _ _ = (Spec.final (Spec.State.init cat) ops).committed := (reach_run cat ops).core.committed
  rw [hc]
  exact spec_committed_states_satisfy_constraints cat ops

/-- every answer is the abstract machine's (`C04.read_is_snapshot`, restated for this property): what a transaction
    reads is its base — a committed state of the abstract machine, which satisfies the constraints by the theorem above —
    with its own writes applied -/
theorem outputs_are_the_abstract_machines (cat : Catalog) (ops : List Op) :
    (run Defects.none cat ops).2 = (Spec.run cat ops).2 := refine_run cat ops

/-- **A violating statement is rejected as a whole**: a statement answering `constraint` (or any other error)
    inside a session leaves store, transaction table, write sets and sessions exactly as they were. -/
theorem violating_statement_rejected_whole (σ : State) (s : String) (st : Stmt)
    (h : (step Defects.none σ (.exec s st)).2 = .stmt (.err .constraint)) :
    (step Defects.none σ (.exec s st)).1 = { σ with clock := σ.clock + 1 } :=
  step_exec_failed σ s st .constraint h

/-- a commit that the constraint re-check (or first-committer-wins) refuses changes nothing in the committed
    database; in particular the second of two open transactions inserting the same key is refused as a whole -/
theorem refused_commit_keeps_committed (α : Spec.State) (a : Spec.ATxn) (e : Err) (h : (α.commitC a).2 = some e) :
    (α.commitC a).1 = α :=
  spec_commitC_refused_state α a e h

/-- `dupKey` — the only reason for a UNIQUE / PRIMARY KEY rejection — means: the key is fully non-NULL and another row
    *of the view* carries it.  The view is what the transaction reads (`C04.read_is_snapshot`: committed at its begin ⊕
    own writes): deleted rows, rows of rolled-back transactions and old versions of changed rows are not in it. -/
theorem unique_rejection_needs_a_live_row (v : View) (t : String) (self : Option Rid) (K : List Nat) (vals : List Val) :
    dupKey v t self K vals = true ↔
      (.null ∉ keyOf K vals) ∧ ∃ x ∈ v, x.table = t ∧ some x.rid ≠ self ∧ keyOf K x.vals = keyOf K vals :=
  dupKey_iff v t self K vals

/-- **No spurious rejection / no missed violation** for an INSERT of one row `r` (cast to `r'`): it is accepted
    exactly when `r'` has no NULL in a NOT NULL column and no row of the transaction's view carries one of its keys;
    otherwise it is rejected with `constraint`. -/
theorem insert_accepted_iff (ts : TableSchema) (c j : Nat) (v : View) (r r' : List Val)
    (hc : castRow ts.cols r = .ok r') :
    ((planIns ts c none v [r] j).out = .okN 1 ↔
      (notNullOk ts.cols r' = true ∧ ∀ K ∈ ts.keySets, dupKey v ts.name none K r' = false)) ∧
    ((planIns ts c none v [r] j).out = .okN 1 ∨ (planIns ts c none v [r] j).out = .err .constraint) := by
  unfold planIns
  simp only [hc]
  by_cases hn : notNullOk ts.cols r' = true
  · simp only [hn, Bool.not_true, Bool.false_eq_true, if_false]
    by_cases hu : uniqueOk none v ts none r' = true
    · simp only [hu, Bool.not_true, Bool.false_eq_true, if_false]
      have hall : ∀ K ∈ ts.keySets, dupKey v ts.name none K r' = false := by
        intro K hK
        have := List.all_eq_true.1 hu K hK
        simpa using this
      have hout : ((planIns ts c (Probe.step none v (Effect.ins (c, j) ts.name r'))
          (View.apply v (Effect.ins (c, j) ts.name r')) [] (j + 1)).cons (Effect.ins (c, j) ts.name r')).out = .okN 1 := by
        simp [planIns, Plan.cons]
      exact ⟨⟨fun _ => ⟨trivial, hall⟩, fun _ => hout⟩, Or.inl hout⟩
    · have hu' : uniqueOk none v ts none r' = false := by simpa using hu
      simp only [hu', Bool.not_false, if_true]
      refine ⟨⟨fun h => absurd h (by simp), ?_⟩, Or.inr trivial⟩
      rintro ⟨_, hall⟩
      exfalso
      apply hu
      apply List.all_eq_true.2
      intro K hK
      simp [hall K hK]
  · have hn' : notNullOk ts.cols r' = false := by simpa using hn
    simp only [hn', Bool.not_false, if_true]
    exact ⟨⟨fun h => absurd h (by simp), fun h => absurd h.1 (by simp)⟩, Or.inr trivial⟩

def catU : Catalog := [{ name := "u", cols := [⟨"k", .big, false, true⟩, ⟨"v", .int, true, false⟩] }]
def preU : List Op := [.tick, .tick, .auto (.ins "u" [[.int 1, .int 10]]), .auto (.ins "u" [[.int 2, .int 20]])]
def kEq (n : Int) : Option Pred := some ⟨"k", .eq, .int n⟩

/-- the live committed rows of a state, as a transaction beginning now reads them -/
def live (D : Defects) (σ : State) : View := view D (σ.freshSnap D) σ.rows

/-- two open transactions insert the same key; nothing is re-checked at commit: both commit, the key is there twice -/
theorem uniqueNotRecheckedAtCommit_witness :
    constraintsHold catU (live { uniqueNotRecheckedAtCommit := true }
      (run { uniqueNotRecheckedAtCommit := true } catU
        (preU ++ [.begin "s1", .begin "s2", .exec "s1" (.ins "u" [[.int 5, .int 50]]),
                  .exec "s2" (.ins "u" [[.int 5, .int 51]]), .commit "s1", .commit "s2"])).1) = false := by
  decide +kernel

/-- after `UPDATE u SET k = 3 WHERE k = 1` the index still carries 1 and does not carry 3: inserting 1 is rejected
    although no live row has it, inserting 3 is accepted although a live row has it -/
theorem indexNotMaintainedOnKeyUpdate_witness :
    (run { indexNotMaintainedOnKeyUpdate := true, uniqueNotRecheckedAtCommit := true } catU
      (preU ++ [.auto (.upd "u" "k" false (.int 3) (kEq 1)), .auto (.ins "u" [[.int 1, .int 30]]),
                .auto (.ins "u" [[.int 3, .int 40]])])).2
      = [.ok, .ok, .stmt (.okN 1), .stmt (.okN 1), .stmt (.okN 1), .stmt (.err .constraint), .stmt (.okN 1)] ∧
    constraintsHold catU (live { indexNotMaintainedOnKeyUpdate := true, uniqueNotRecheckedAtCommit := true }
      (run { indexNotMaintainedOnKeyUpdate := true, uniqueNotRecheckedAtCommit := true } catU
        (preU ++ [.auto (.upd "u" "k" false (.int 3) (kEq 1)), .auto (.ins "u" [[.int 1, .int 30]]),
                  .auto (.ins "u" [[.int 3, .int 40]])])).1) = false := by
  decide +kernel

/-- a transaction deletes key 1, inserts it again and rolls back: its index entry replaced the old row's, so after the
    rollback the index no longer knows the (live again) old row and a second row with key 1 is accepted -/
theorem indexOneEntryPerKey_witness :
    constraintsHold catU (live { indexOneEntryPerKey := true, uniqueNotRecheckedAtCommit := true }
      (run { indexOneEntryPerKey := true, uniqueNotRecheckedAtCommit := true } catU
        (preU ++ [.begin "s1", .exec "s1" (.del "u" (kEq 1)), .exec "s1" (.ins "u" [[.int 1, .int 11]]), .rollback "s1",
                  .auto (.ins "u" [[.int 1, .int 12]])])).1) = false := by
  decide +kernel

/-- a rolled-back `UPDATE u SET k = 5 WHERE k = 1` stays in the table (the version carries the inserter's id):
    the committed rows then differ from the specification's, and a later insert of 5 produces a duplicate key -/
theorem updateKeepsInserterXmin_witness :
    constraintsHold catU (live { updateKeepsInserterXmin := true, indexNotMaintainedOnKeyUpdate := true, uniqueNotRecheckedAtCommit := true }
      (run { updateKeepsInserterXmin := true, indexNotMaintainedOnKeyUpdate := true, uniqueNotRecheckedAtCommit := true } catU
        (preU ++ [.begin "s1", .exec "s1" (.upd "u" "k" false (.int 5) (kEq 1)), .rollback "s1",
                  .auto (.ins "u" [[.int 5, .int 55]])])).1) = false := by
  decide +kernel

/-! With `commitChecksInsertedKeysOnly` the keys a transaction INSERTs travel in its write set and are compared at commit
    (what /repo does since its commit ed56cf9); what this catches and what it misses: -/

/-- two open transactions insert the same key: the second committer is refused with a constraint error, as specified -/
theorem commitChecksInsertedKeysOnly_second_inserter_refused :
    (run { commitChecksInsertedKeysOnly := true } catU
      (preU ++ [.begin "s1", .begin "s2", .exec "s1" (.ins "u" [[.int 5, .int 50]]),
                .exec "s2" (.ins "u" [[.int 5, .int 51]]), .commit "s1", .commit "s2"])).2.getLast?
      = some (.refused .constraint) ∧
    constraintsHold catU (live { commitChecksInsertedKeysOnly := true }
      (run { commitChecksInsertedKeysOnly := true } catU
        (preU ++ [.begin "s1", .begin "s2", .exec "s1" (.ins "u" [[.int 5, .int 50]]),
                  .exec "s2" (.ins "u" [[.int 5, .int 51]]), .commit "s1", .commit "s2"])).1) = true := by
  decide +kernel

/-- … but only INSERTed keys are compared: a transaction that reaches key 5 by UPDATE and one that inserts 5 both
    commit, the key is there twice -/
theorem commitChecksInsertedKeysOnly_witness :
    constraintsHold catU (live { commitChecksInsertedKeysOnly := true }
      (run { commitChecksInsertedKeysOnly := true } catU
        (preU ++ [.begin "s1", .begin "s2", .exec "s1" (.upd "u" "k" false (.int 5) (kEq 1)),
                  .exec "s2" (.ins "u" [[.int 5, .int 51]]), .commit "s1", .commit "s2"])).1) = false := by
  decide +kernel

/-- … and a key stays in the write set when its row is deleted again: the commit is refused although the committed
    database would hold the key once (the specification commits) -/
theorem commitChecksInsertedKeysOnly_spurious_refusal :
    (run { commitChecksInsertedKeysOnly := true } catU
      (preU ++ [.begin "s1", .begin "s2", .exec "s1" (.ins "u" [[.int 5, .int 50]]), .exec "s1" (.del "u" (kEq 5)),
                .exec "s2" (.ins "u" [[.int 5, .int 51]]), .commit "s2", .commit "s1"])).2.getLast?
      = some (.refused .constraint) ∧
    (run Defects.none catU
      (preU ++ [.begin "s1", .begin "s2", .exec "s1" (.ins "u" [[.int 5, .int 50]]), .exec "s1" (.del "u" (kEq 5)),
                .exec "s2" (.ins "u" [[.int 5, .int 51]]), .commit "s2", .commit "s1"])).2.getLast? = some .ok := by
  decide +kernel

/-- the index defects under the key comparison at commit: delete + re-insert + rollback still loses the live row's
    entry, and the duplicate inserted afterwards is not caught at its commit -/
theorem indexOneEntryPerKey_witness_keys :
    constraintsHold catU (live { indexOneEntryPerKey := true, commitChecksInsertedKeysOnly := true }
      (run { indexOneEntryPerKey := true, commitChecksInsertedKeysOnly := true } catU
        (preU ++ [.begin "s1", .exec "s1" (.del "u" (kEq 1)), .exec "s1" (.ins "u" [[.int 1, .int 11]]), .rollback "s1",
                  .auto (.ins "u" [[.int 1, .int 12]])])).1) = false := by
  decide +kernel

theorem indexNotMaintainedOnKeyUpdate_witness_keys :
    constraintsHold catU (live { indexNotMaintainedOnKeyUpdate := true, commitChecksInsertedKeysOnly := true }
      (run { indexNotMaintainedOnKeyUpdate := true, commitChecksInsertedKeysOnly := true } catU
        (preU ++ [.auto (.upd "u" "k" false (.int 3) (kEq 1)), .auto (.ins "u" [[.int 1, .int 30]]),
                  .auto (.ins "u" [[.int 3, .int 40]])])).1) = false := by
  decide +kernel

/-- the specification on the same histories: the second commit / the duplicate insert is refused, the constraints hold -/
example :
    (run Defects.none catU
      (preU ++ [.begin "s1", .begin "s2", .exec "s1" (.ins "u" [[.int 5, .int 50]]),
                .exec "s2" (.ins "u" [[.int 5, .int 51]]), .commit "s1", .commit "s2"])).2.getLast? = some (.refused .constraint) := by
  decide +kernel

end AxVerif.Db.C07
