/-
  C19 — Values compare, hash, cast and round-trip consistently.
  Unless a theorem is named `…_witness`, it is about the specification `Defects := {}`.
-/
import AxVerif.Lemmas.ValueFloat
import AxVerif.Generated.Value
namespace AxVerif.Value
open AxVerif Std

/-! ## VarInt (types/varint.rs) -/

/-- Zig-zag is a bijection between the integers and the naturals (both directions, no range restriction). -/
theorem zigzag_bij : (∀ v : Int, VarInt.unzigzag (VarInt.zigzag v) = v) ∧ (∀ u : Nat, VarInt.zigzag (VarInt.unzigzag u) = u) := by
  refine ⟨fun v => ?_, fun u => ?_⟩
  · unfold VarInt.unzigzag VarInt.zigzag
    split <;> split <;> omega
  · unfold VarInt.unzigzag VarInt.zigzag
    split <;> split <;> omega

/-- `encode_zigzag` of an `i64` fits `u64`, and every `u64` is the image of an `i64`. -/
theorem zigzag_range (v : Int) : VarInt.InI64 v ↔ VarInt.zigzag v < 18446744073709551616 := by
  unfold VarInt.zigzag VarInt.InI64
  split <;> omega

/-- Every `i64` survives encode → decode, whatever follows it in the buffer, and the decoder stops exactly
    behind the encoding. -/
theorem varint_roundtrip (v : Int) (h : VarInt.InI64 v) (rest : Bytes) :
    VarInt.decode (VarInt.encode v ++ rest) = some (v, rest) := by
  have hz : VarInt.zigzag v < 18446744073709551616 := (zigzag_range v).mp h
  have hlt : VarInt.zigzag v < 128 ^ 10 := by omega
  obtain ⟨hscan, hval⟩ := VarInt.encodeU_spec 10 _ rest (by decide) hlt
  unfold VarInt.decode VarInt.encode VarInt.maxLen
  rw [hscan]
  simp only [VarInt.valueOf, hval, Nat.mod_eq_of_lt hz, zigzag_bij.1 v]

/-- An encoding occupies between 1 and `MAX_VARINT_LEN` = 10 bytes, and `encoded_size` predicts it exactly. -/
theorem varint_length (v : Int) :
    1 ≤ (VarInt.encode v).length ∧ (VarInt.encode v).length ≤ 10 ∧ VarInt.encodedSize v = (VarInt.encode v).length :=
  ⟨VarInt.encodeU_length_pos 9 _, VarInt.encodeU_length 10 _, VarInt.sizeU_eq 10 _⟩

/-- Encoding is injective on `i64` (distinct values never share an encoding). -/
theorem varint_encode_injective (a b : Int) (ha : VarInt.InI64 a) (hb : VarInt.InI64 b)
    (h : VarInt.encode a = VarInt.encode b) : a = b := by
  have h1 := varint_roundtrip a ha []
  have h2 := varint_roundtrip b hb []
  rw [h] at h1
  rw [h1] at h2
  simpa using h2

/-- Over-long or unterminated input is rejected: if none of the first ten bytes ends the number
    (this includes the empty buffer), decoding fails. -/
theorem varint_rejects_long (bs : Bytes) (h : ∀ b ∈ bs.take 10, 128 ≤ b.toNat) : VarInt.decode bs = none := by
  unfold VarInt.decode VarInt.maxLen
  rw [VarInt.scan_none_of_all_cont 10 bs h]

/-- The decoder never looks past its own prefix: whatever it accepts splits the input into a prefix of 1–10
    bytes and the untouched rest, and the decoded number is an `i64`. -/
theorem varint_decode_consumes (bs rest : Bytes) (v : Int) (h : VarInt.decode bs = some (v, rest)) :
    ∃ p, bs = p ++ rest ∧ 1 ≤ p.length ∧ p.length ≤ 10 ∧ VarInt.InI64 v := by
  revert h
  fun_cases VarInt.decode bs with
  | case1 => exact fun h => nomatch h
  | case2 p r hs =>
    intro h
    cases h
    obtain ⟨h1, h2, h3⟩ := VarInt.scan_length hs
    refine ⟨p, h1, h2, h3, ?_⟩
    rw [VarInt.valueOf, zigzag_range, zigzag_bij.2]
    exact Nat.mod_lt _ (by omega)

/-! ## Blob (types/blob.rs) -/

/-- Every byte string (shorter than 2^63, the largest length a `VarInt` can announce) survives
    `from_unencoded_slice` → `reinterpret_cast`, whatever follows it, and the reader stops right behind it. -/
theorem blob_roundtrip (data rest : Bytes) (h : data.length < 9223372036854775808) :
    Blob.decode {} (Blob.encode data ++ rest) = .ok (data, (Blob.encode data).length, rest) := by
  rw [Blob.encode, List.append_assoc,
    Blob.decode_of_prefix _ _ _ h (varint_length _).2.1 (varint_roundtrip _ ⟨by omega, by omega⟩ _),
    if_neg (by rw [List.length_append]; omega), List.take_left' rfl, List.drop_left' rfl, List.length_append]

/-- A truncated blob is refused (never a short read). -/
theorem blob_rejects_truncated (data : Bytes) (k : Nat) (h : data.length < 9223372036854775808) (hk : k < data.length) :
    Blob.decode {} (VarInt.encode (data.length : Int) ++ data.take k) = .error .eof := by
  rw [Blob.decode_of_prefix _ _ _ h (varint_length _).2.1 (varint_roundtrip _ ⟨by omega, by omega⟩ _),
    if_pos (by rw [List.length_take]; omega)]

/-- The chunked comparator (8-byte big-endian words, then single bytes, then length) is exactly the
    lexicographic order on the data bytes — for all byte strings. -/
theorem blobCmp_eq_lex (a b : Bytes) : Blob.cmp a b = Blob.lex a b := Blob.cmp_eq_lex a b

/-- …and that order is a total order: reflexive, `eq` only on identical strings, antisymmetric (swapping the
    arguments swaps the verdict), transitive; a proper prefix sorts first. -/
theorem blobCmp_total_order :
    (∀ a, Blob.cmp a a = .eq) ∧
    (∀ a b, Blob.cmp a b = .eq ↔ a = b) ∧
    (∀ a b, Blob.cmp b a = (Blob.cmp a b).swap) ∧
    (∀ a b c, Blob.cmp a b = .lt → Blob.cmp b c = .lt → Blob.cmp a c = .lt) ∧
    (∀ a b : Bytes, b ≠ [] → Blob.cmp a (a ++ b) = .lt) := by
  simp only [blobCmp_eq_lex]
  refine ⟨fun _ => ReflCmp.compare_self, fun _ _ => LawfulEqCmp.compare_eq_iff_eq, fun _ _ => OrientedCmp.eq_swap,
    fun _ _ _ => TransCmp.lt_trans, ?_⟩
  intro a b hb
  induction a with
  | nil => cases b with
    | nil => exact absurd rfl hb
    | cons _ _ => rfl
  | cons x xs ih => simp [Blob.lex, ih]

/-- With the unchecked `offset + len` of the shipped code, a one-byte buffer announcing length −1 overflows `usize`. -/
theorem blobLenOverflow_witness :
    Blob.decode { blobLenOverflow := true } [1] = .error .overflowPanic ∧ Blob.decode {} [1] = .error .eof :=
  ⟨by decide, by decide⟩

/-! ## serialize / write_to / deserialize (types/core.rs) -/

/-- Storing then loading returns the value unchanged — for every non-NULL value of every kind, at any cursor
    (the value sits at the next multiple of its alignment), whatever precedes and follows it; the reader's new
    cursor is exactly the end of the value. -/
theorem serialize_roundtrip (v : Value) (hw : v.Wf) (hn : v ≠ .null) (pre rest : Bytes) (cursor : Nat)
    (hc : alignUp cursor v.kind.align = pre.length) :
    ∃ bs, serialize v = .ok bs ∧
      deserialize {} v.kind (pre ++ bs ++ rest) cursor = .ok (v, pre.length + bs.length) := by
  cases v <;> first | exact absurd rfl hn | refine ⟨_, rfl, ?_⟩
  all_goals simp only [Value.kind, Kind.align, alignUp_one] at hc
  case bool b =>
    subst hc
    simp only [deserialize, Value.kind, drop_pre]
    cases b <;> rfl
  case int i =>
    simp only [deserialize, Value.kind, hc, drop_pre, take32_le32 _ _ (toU32_lt i), ofU32_toU32 i hw, le32_length]
  case bigint i =>
    simp only [deserialize, Value.kind, hc, drop_pre, take64_le64 _ _ (toU64_lt i), ofU64_toU64 i hw, le64_length]
  case uint n | float n =>
    simp only [deserialize, Value.kind, hc, drop_pre, take32_le32 _ _ hw, le32_length]
  case biguint n | double n =>
    simp only [deserialize, Value.kind, hc, drop_pre, take64_le64 _ _ hw, le64_length]
  case blob d =>
    subst hc
    simp only [deserialize, Value.kind, drop_pre]
    rw [blob_roundtrip d rest hw]

/-- `write_to` followed by `deserialize` at the same cursor gives the value back and the cursor `write_to` returned;
    writing changes nothing outside the value's own bytes. -/
theorem write_then_read (v : Value) (hw : v.Wf) (buf : Bytes) (cursor : Nat) (buf' : Bytes) (c' : Nat)
    (h : writeTo {} v buf cursor = .ok (some (buf', c'))) :
    deserialize {} v.kind buf' cursor = .ok (v, c') ∧ buf'.length = buf.length ∧
    buf'.take (alignUp cursor v.kind.align) = buf.take (alignUp cursor v.kind.align) ∧
    buf'.drop c' = buf.drop c' := by
  revert h
  fun_cases writeTo {} v buf cursor with
  | case4 bs hs at_ hfit hwhole =>
    intro h
    cases h
    have hn : v ≠ .null := fun e => by subst e; exact nomatch hs
    have hlen : (buf.take at_).length = at_ := by
      rw [List.length_take]; omega
    obtain ⟨bs2, hs2, hd⟩ := serialize_roundtrip v hw hn (buf.take at_) (buf.drop (at_ + bs.length)) cursor hlen.symm
    cases hs.symm.trans hs2
    rw [hlen] at hd
    refine ⟨hd, ?_, ?_, ?_⟩
    · simp only [List.length_append, List.length_take, List.length_drop]; omega
    · rw [List.append_assoc, List.take_left' hlen]
    · rw [show at_ + bs.length = (buf.take at_ ++ bs).length by rw [List.length_append, hlen], List.drop_left' rfl]
  | _ => exact fun h => nomatch h

/-! ## try_cast (types/mod.rs, numeric.rs) -/

/-- A cast to the value's own kind is the identity (for every value, also NaN and -0.0). -/
theorem cast_same_kind_id (D : Defects) (v : Value) : tryCast D v v.kind = .ok v := by
  unfold tryCast
  exact if_pos rfl

/-- NULL casts to NULL of any kind. -/
theorem cast_null (D : Defects) (k : Kind) : tryCast D .null k = .ok .null := by
  cases k <;> rfl

def Kind.InRange (k : Kind) (i : Int) : Prop :=
  match k.intRange with
  | some (lo, hi) => lo ≤ i ∧ i ≤ hi
  | none => False

instance (k : Kind) (i : Int) : Decidable (k.InRange i) := by
  unfold Kind.InRange; split <;> infer_instance

/-- Integer → integer casts preserve the mathematical value exactly when it fits the target, and are an error
    (never a wrap-around) when it does not. -/
theorem cast_int_exact (D : Defects) (v : Value) (k : Kind) (i : Int) (hw : v.Wf)
    (hv : v.intVal = some i) (hk : k.isInteger = true) :
    (k.InRange i → ∃ w, tryCast D v k = .ok w ∧ w.kind = k ∧ w.intVal = some i ∧ w.Wf) ∧
    (¬ k.InRange i → tryCast D v k = .error .badCast) := by
  obtain ⟨lo, hi, hr⟩ : ∃ lo hi, k.intRange = some (lo, hi) := by
    cases k <;> first | exact ⟨_, _, rfl⟩ | exact absurd hk (by decide)
  have hIR : k.InRange i ↔ lo ≤ i ∧ i ≤ hi := by rw [Kind.InRange, hr]
  rw [hIR]
  by_cases hkk : v.kind = k
  · subst hkk
    rw [cast_same_kind_id]
    exact ⟨fun _ => ⟨v, rfl, rfl, hv, hw⟩, fun hn => absurd (range_of_wf v i lo hi hw hv hr) hn⟩
  · rw [tryCast_int D v k i lo hi hv hr hkk]
    exact ⟨fun h => if_pos h ▸ ⟨_, rfl, (ofInt_intVal k i lo hi hr h.1).1, (ofInt_intVal k i lo hi hr h.1).2, wf_ofInt k i lo hi hr h.1 h.2⟩,
      fun h => if_neg h⟩


/-- Bool → numeric → Bool is the identity for every numeric kind. -/
theorem cast_bool_roundtrip (D : Defects) (b : Bool) (k : Kind) (hk : k.isNumeric = true) :
    ∃ w, tryCast D (.bool b) k = .ok w ∧ w.kind = k ∧ tryCast D w .bool = .ok (.bool b) := by
  cases k <;> simp only [Kind.isNumeric, Bool.false_eq_true] at hk <;> cases b <;>
    exact ⟨_, rfl, rfl, rfl⟩

/-- There is no cast between blobs and anything else, and none to the NULL kind (error, not garbage). -/
theorem cast_unsupported (D : Defects) (v : Value) (k : Kind) (hn : v ≠ .null) (hne : v.kind ≠ k)
    (h : v.kind = .blob ∨ k = .blob ∨ k = .null) : tryCast D v k = .error .badCast := by
  cases v with
  | null => exact absurd rfl hn
  | blob d => cases k <;> first | exact absurd rfl hne | rfl
  | _ => rcases h with h | rfl | rfl <;> first | cases h | rfl

/-- Float → integer casts return the truncation of the value (toward zero) when it fits the target, and fail
    otherwise (NaN, infinities, out of range, negative to unsigned). -/
theorem cast_double_to_int_trunc (b : Nat) (k : Kind) (w : Value) (hk : k.isInteger = true)
    (h : tryCast {} (.double b) k = .ok w) :
    f64.isFinite b = true ∧ w.intVal = some (truncF64 b) ∧ k.InRange (truncF64 b) := by
  have hfl : floatToInt {} k b = some w := by
    rw [tryCast_double_int {} b k hk] at h
    split at h
    · rename_i hw; cases h; exact hw
    · exact nomatch h
  unfold Kind.InRange
  revert hfl
  fun_cases floatToInt {} k b with
  | case4 lo hi hr hfin t unsigned hsign hin =>
    intro hfl
    cases hfl
    rw [hr]
    exact ⟨by simpa using hfin, (ofInt_intVal k _ lo hi hr hin.1).2, hin⟩
  | case5 lo hi hr hfin t unsigned hsign hin hsat => exact absurd hsat.1 Bool.false_ne_true
  | _ => exact fun h => nomatch h

/-- `truncF64` is truncation toward zero of the exact value: |t| ≤ |value| < |t| + 1 (in units of 2^-1074) and the
    sign is the value's. -/
theorem truncF64_spec (b : Nat) :
    (truncF64 b).natAbs * unitScale ≤ f64.scaledMag b ∧ f64.scaledMag b < ((truncF64 b).natAbs + 1) * unitScale ∧
    (f64.isNeg b = true → truncF64 b ≤ 0) ∧ (f64.isNeg b = false → 0 ≤ truncF64 b) := by
  obtain ⟨T, hT, hlo, hhi⟩ := truncF64_eq_signed b
  rw [hT, natAbs_signed]
  refine ⟨hlo, hhi, fun hn => ?_, fun hn => ?_⟩
  · rw [hn]; exact Int.neg_nonpos_of_nonneg (Int.natCast_nonneg T)
  · rw [hn]; exact Int.natCast_nonneg T
/-- Shipped defect (fixed by f2c2f70): the double 2^63 cast to BIGINT gave i64::MAX instead of an error. -/
theorem castSaturates_witness :
    tryCast { castSaturates := true } (.double 4890909195324358656) .bigint = .ok (.bigint 9223372036854775807) ∧
    tryCast {} (.double 4890909195324358656) .bigint = .error .badCast ∧
    truncF64 4890909195324358656 = 9223372036854775808 := by
  refine ⟨by decide, by decide, by decide⟩

/-- Shipped defect (fixed by bd42e24): writing a bool anywhere but into the last byte of the buffer panicked. -/
theorem boolWriteWholeTail_witness :
    writeTo { boolWriteWholeTail := true } (.bool true) [0, 0] 0 = .error .slicePanic ∧
    writeTo {} (.bool true) [0, 0] 0 = .ok (some ([1, 0], 1)) := by
  refine ⟨by decide, by decide⟩

/-! ## Equality, ordering, hashing (types/macros/datatype.rs)

`Value.ext` is the exact mathematical value of a numeric datum (an extended real; finite values as integer multiples
of 2^-1074, so nothing is ever rounded); the specification compares numerics by `Ext.cmp` on it. -/

/-- Equality is an equivalence on all values of all kinds (NULL, every NaN, both zeros included). -/
theorem eq_equivalence :
    (∀ a, eq {} a a = true) ∧
    (∀ a b, eq {} a b = eq {} b a) ∧
    (∀ a b c, eq {} a b = true → eq {} b c = true → eq {} a c = true) := by
  refine ⟨fun a => (eq_iff_key a a).mpr rfl, fun a b => ?_, fun a b c h1 h2 => ?_⟩
  · rw [Bool.eq_iff_iff, eq_iff_key, eq_iff_key]; exact eq_comm
  · rw [eq_iff_key] at *; exact h1.trans h2

/-- Ordering is a total order within each class (booleans; all numeric kinds together; blobs), consistent with
    equality; NULL and values of different classes are unordered (`None`), as SQL requires:
    (1) comparable exactly when same class and not NULL, (2) antisymmetric, (3) transitive,
    (4) `Equal` exactly when `==`. -/
theorem cmp_total_order :
    (∀ a b, (partialCmp {} a b).isSome ↔ a.cls = b.cls ∧ a.cls ≠ 0) ∧
    (∀ a b, partialCmp {} b a = (partialCmp {} a b).map Ordering.swap) ∧
    (∀ a b c, partialCmp {} a b = some .lt → partialCmp {} b c = some .lt → partialCmp {} a c = some .lt) ∧
    (∀ a b, partialCmp {} a b = some .eq ↔ eq {} a b = true ∧ a.cls ≠ 0) :=
  ⟨partialCmp_isSome_iff, partialCmp_swap, partialCmp_trans .lt, partialCmp_eq_iff⟩

/-- Numeric comparison across integer and floating kinds is comparison of the exact mathematical values. -/
theorem cmp_is_mathematical (a b : Value) (x y : Ext) (ha : a.ext = some x) (hb : b.ext = some y) :
    partialCmp {} a b = some (Ext.cmp x y) ∧ eq {} a b = (Ext.cmp x y == .eq) := by
  rw [(cmp_num {} a b x y ha hb).1, (cmp_num {} a b x y ha hb).2, numCmp_spec a b x y ha hb]
  exact ⟨rfl, rfl⟩

/-- In particular any two integers of any two integer kinds (Int, BigInt, UInt, BigUInt) compare as integers —
    at every magnitude, 2^53 and beyond included. -/
theorem int_cmp_exact (a b : Value) (i j : Int) (ha : a.intVal = some i) (hb : b.intVal = some j) :
    partialCmp {} a b = some (icmp i j) ∧ (eq {} a b = true ↔ i = j) := by
  obtain ⟨hc, he⟩ := cmp_is_mathematical a b _ _ (ext_int a i ha) (ext_int b j hb)
  rw [hc, he]
  simp only [Ext.cmp, icmp_scale, beq_iff_eq, icmp_eq_iff, and_self]

/-- IEEE comparison on bit patterns (unordered on NaN; otherwise by sign, then exponent field and fraction read as
    one magnitude) is the order of the exact values — for all non-NaN `f64` bit patterns. -/
theorem ieeeCmp_is_value_order (a b : Nat) (ha : f64.isNaN a = false) (hb : f64.isNaN b = false) :
    ieeeCmp a b = some (Ext.cmp (f64.ext a) (f64.ext b)) := by
  rw [ieeeCmp, ha, hb, f64_ext_cmp a b ha hb]
  rfl

/-- `f32 as f64` is exact for every `f32` bit pattern (NaN ↦ NaN, ±∞ ↦ ±∞, subnormals included), hence so is
    the cast Float → Double. -/
theorem float_to_double_exact (D : Defects) (b : Nat) (hb : b < 4294967296) :
    ∃ d, tryCast D (.float b) .double = .ok (.double d) ∧ f64.ext d = f32.ext b :=
  ⟨widen b, rfl, widen_exact b⟩

/-- Integers up to 2^53 in magnitude convert to `f64` exactly (the cast BigInt → Double preserves the value). -/
theorem int_to_double_exact (D : Defects) (i : Int) (h : i.natAbs ≤ 9007199254740992) :
    ∃ d, tryCast D (.bigint i) .double = .ok (.double d) ∧ f64.ext d = .fin (i * (unitScale : Int)) :=
  ⟨intToFloat f64 i, rfl, f64_ext_intToFloat_small i h⟩

/-- …and so does any integer, of any size, whose value is the value of some `f64` (no double rounding, no loss). -/
theorem int_to_double_exact_if_representable (i : Int) (d : Nat) (h : f64.ext d = .fin (i * (unitScale : Int))) :
    f64.ext (intToFloat f64 i) = .fin (i * (unitScale : Int)) := int_repr_exact i d h

/-- Equality agrees with hashing: values that compare equal feed the same bytes to the hasher — for all values of
    all kinds, across kinds (Int 0, Double -0.0 and Float 0.0; BigInt 2^60 and the Double 2^60; all NaNs). -/
theorem eq_imp_hash_eq (a b : Value) (ha : a.Wf) (hb : b.Wf) (h : eq {} a b = true) :
    hashKey {} a = hashKey {} b := by
  rw [eq_iff_key] at h
  by_cases hc : a.cls = 2
  · have hcb : b.cls = 2 := by rw [← eqKey_cls, ← h, eqKey_cls]; exact hc
    obtain ⟨x, hx⟩ := (ext_isSome_iff a).mp hc
    have hxb : b.ext = some x := (eqKey_num_iff b x).mp (h ▸ (eqKey_num_iff a x).mpr hx)
    obtain ⟨ta, hta, _⟩ := toF64_some a ha hc
    obtain ⟨tb, htb, _⟩ := toF64_some b hb hcb
    rw [hashKey_num _ a ta hc hta, hashKey_num _ b tb hcb htb, canon_of_ext_eq a b ha hb x hx hxb ta tb hta htb]
    rfl
  · rw [eqKey_inj a b h hc]

/-- The ORDER BY comparator (NULLs first, then `partial_cmp`) is a strict weak order, which is what `sort_by`
    needs: antisymmetric, transitive, and "equal" is transitive. -/
theorem sortCmp_weak_order :
    (∀ a b, sortCmp {} b a = (sortCmp {} a b).swap) ∧
    (∀ a b c, a.cls = b.cls → b.cls = c.cls → sortCmp {} a b = .lt → sortCmp {} b c = .lt → sortCmp {} a c = .lt) ∧
    (∀ a b c, a.cls = b.cls → b.cls = c.cls → sortCmp {} a b = .eq → sortCmp {} b c = .eq → sortCmp {} a c = .eq) := by
  have key : ∀ a b : Value, a.cls = b.cls → a.cls ≠ 0 → partialCmp {} a b = some (sortCmp {} a b) := by
    intro a b h1 h2
    have := (partialCmp_isSome_iff a b).mpr ⟨h1, h2⟩
    obtain ⟨o, ho⟩ := Option.isSome_iff_exists.mp this
    rw [sortCmp_nonnull {} a b h2 (h1 ▸ h2), ho]; rfl
  have trans : ∀ o a b c, a.cls = b.cls → b.cls = c.cls → sortCmp {} a b = o → sortCmp {} b c = o →
      sortCmp {} a c = o := by
    intro o a b c hab hbc h1 h2
    by_cases h0 : a.cls = 0
    · rw [(cls_zero_iff a).mp h0, (cls_zero_iff b).mp (hab ▸ h0)] at h1
      rw [(cls_zero_iff a).mp h0, (cls_zero_iff c).mp (hab.trans hbc ▸ h0), ← h1]
    · have := partialCmp_trans o a b c (h1 ▸ key a b hab h0) (h2 ▸ key b c hbc (hab ▸ h0))
      rw [key a c (hab.trans hbc) h0] at this
      exact Option.some.inj this
  refine ⟨fun a b => ?_, trans .lt, trans .eq⟩
  by_cases ha : a.cls = 0
  · rw [(cls_zero_iff a).mp ha]; cases b <;> rfl
  · by_cases hb : b.cls = 0
    · rw [(cls_zero_iff b).mp hb]; cases a <;> first | rfl | exact absurd rfl ha
    · rw [sortCmp_nonnull {} a b ha hb, sortCmp_nonnull {} b a hb ha, partialCmp_swap a b]
      cases partialCmp {} a b <;> rfl

/-- full statement (not claimed for the shipped code — refuted below): as shipped, comparison is by mathematical value -/
def shipped_cmp_is_mathematical_statement : Prop :=
  ∀ a b : Value, a.Wf → b.Wf →
    partialCmp Defects.asShipped a b = partialCmp {} a b ∧ eq Defects.asShipped a b = eq {} a b

/-- full statement (refuted below): as shipped, equality is reflexive -/
def shipped_eq_reflexive_statement : Prop := ∀ a : Value, a.Wf → eq Defects.asShipped a a = true

/-- full statement (refuted below): as shipped, equal values hash equally -/
def shipped_eq_imp_hash_eq_statement : Prop :=
  ∀ a b : Value, a.Wf → b.Wf → eq Defects.asShipped a b = true → hashKey Defects.asShipped a = hashKey Defects.asShipped b

/-- What holds as shipped: on safe values (integers of magnitude ≤ 2^53, no NaN) the comparison through `f64` is
    the comparison by exact value — so there equality is an equivalence and the order total, by the theorems above. -/
theorem shipped_cmp_is_mathematical_partial (a b : Value) (ha : a.Wf) (hb : b.Wf) (sa : a.Safe) (sb : b.Safe) :
    partialCmp Defects.asShipped a b = partialCmp {} a b ∧ eq Defects.asShipped a b = eq {} a b := by
  refine cmp_congr _ _ a b fun x y hkx hky => ?_
  have hx := (eqKey_num_iff a x).mp hkx
  have hy := (eqKey_num_iff b y).mp hky
  obtain ⟨ia, na⟩ := safe_image a ha sa x hx
  obtain ⟨ib, nb⟩ := safe_image b hb sb y hy
  rw [numCmp_spec a b x y hx hy]
  simp only [numCmp, Defects.asShipped, if_true, ia, ib, true_and]
  rw [if_neg (by simp only [not_or]; exact ⟨na, nb⟩)]

/-- As shipped, the numeric comparison is IEEE `partial_cmp` of the two `f64` images on their bit patterns. -/
theorem shipped_numeric_cmp_is_ieee (a b : Value) (ta tb : Nat) (hta : a.toF64 = some ta) (htb : b.toF64 = some tb) :
    numCmp Defects.asShipped a b = ieeeCmp ta tb := by
  simp only [numCmp, Defects.asShipped, if_true, hta, htb, Option.map_some, true_and, ieeeCmp, FloatFmt.ext_nan_iff,
    ← Bool.or_eq_true]
  split
  · rfl
  · rename_i h
    simp only [Bool.or_eq_true, not_or, Bool.not_eq_true] at h
    exact congrArg some (f64_ext_cmp ta tb h.1 h.2)

/-- What holds as shipped: equal values hash equally unless a negative zero is involved (at any magnitude — the
    collisions of big integers are consistent between `==` and `Hash`). -/
theorem shipped_eq_imp_hash_eq_partial (a b : Value) (ha : a.Wf) (hb : b.Wf)
    (hza : a.toF64 ≠ some 9223372036854775808) (hzb : b.toF64 ≠ some 9223372036854775808)
    (h : eq Defects.asShipped a b = true) : hashKey Defects.asShipped a = hashKey Defects.asShipped b := by
  by_cases hc : a.cls = 2 ∧ b.cls = 2
  · obtain ⟨ta, hta, lta⟩ := toF64_some a ha hc.1
    obtain ⟨tb, htb, ltb⟩ := toF64_some b hb hc.2
    obtain ⟨x, hx⟩ := (ext_isSome_iff a).mp hc.1
    obtain ⟨y, hy⟩ := (ext_isSome_iff b).mp hc.2
    rw [(cmp_num Defects.asShipped a b x y hx hy).2] at h
    simp only [numCmp, Defects.asShipped, if_true, hta, htb, Option.map_some, true_and, beq_iff_eq] at h
    split at h
    · exact nomatch h
    · rename_i hnn
      have hcanon := f64_ext_inj ta tb lta ltb ((Ext.cmp_eq_iff _ _).mp (Option.some.inj h))
      have n1 := f64_not_nan_of_ext rfl (fun e => hnn (Or.inl e))
      have n2 := f64_not_nan_of_ext rfl (fun e => hnn (Or.inr e))
      rw [canon_id ta lta n1 (fun e => hza (by rw [hta, e])), canon_id tb ltb n2 (fun e => hzb (by rw [htb, e]))] at hcanon
      rw [hashKey_num _ a ta hc.1 hta, hashKey_num _ b tb hc.2 htb, hcanon]
  · -- outside the numeric class the defects change nothing, and equal keys are equal values
    have hk := (eq_iff_key a b).mp
      ((cmp_congr _ {} a b fun x y hx hy => absurd ⟨cls_of_eqKey_num hx, cls_of_eqKey_num hy⟩ hc).2 ▸ h)
    have hn : a.cls ≠ 2 := fun e => hc ⟨e, by rw [← eqKey_cls, ← hk, eqKey_cls, e]⟩
    rw [eqKey_inj a b hk hn]

/-- Shipped defect `numericViaF64` (fixed by 57ea8a0): the BIGINTs 2^53 and 2^53 + 1 compare equal. -/
theorem big_int_collision_witness :
    eq { numericViaF64 := true } (.bigint 9007199254740992) (.bigint 9007199254740993) = true ∧
    partialCmp { numericViaF64 := true } (.bigint 9007199254740992) (.bigint 9007199254740993) = some .eq ∧
    partialCmp {} (.bigint 9007199254740992) (.bigint 9007199254740993) = some .lt ∧
    ¬ shipped_cmp_is_mathematical_statement := by
  refine ⟨by decide +kernel, by decide +kernel, by decide +kernel, fun h => ?_⟩
  have := (h (.bigint 9007199254740992) (.bigint 9007199254740993) (by decide) (by decide)).2
  revert this
  decide +kernel

/-- Shipped defect `nanUnordered` (fixed by 38f555e): NaN is not equal to itself and is unordered, and the ORDER BY
    comparator is then not transitive (1 ~ NaN ~ 2 but 1 < 2). -/
theorem nan_irreflexive_witness :
    eq { nanUnordered := true } (.double 9221120237041090560) (.double 9221120237041090560) = false ∧
    partialCmp { nanUnordered := true } (.double 9221120237041090560) (.double 4607182418800017408) = none ∧
    (sortCmp { nanUnordered := true } (.int 1) (.double 9221120237041090560) = .eq ∧
     sortCmp { nanUnordered := true } (.double 9221120237041090560) (.int 2) = .eq ∧
     sortCmp { nanUnordered := true } (.int 1) (.int 2) = .lt) ∧
    ¬ shipped_eq_reflexive_statement := by
  refine ⟨by decide +kernel, by decide +kernel, ⟨by decide +kernel, by decide +kernel, by decide +kernel⟩, fun h => ?_⟩
  have := h (.double 9221120237041090560) (by decide)
  revert this
  decide +kernel

/-- Shipped defect `hashRawBits` (fixed by c1c2e9c): 0.0 == -0.0 but their hashes differ. -/
theorem neg_zero_hash_witness :
    eq Defects.asShipped (.double 0) (.double 9223372036854775808) = true ∧
    hashKey Defects.asShipped (.double 0) ≠ hashKey Defects.asShipped (.double 9223372036854775808) ∧
    ¬ shipped_eq_imp_hash_eq_statement := by
  refine ⟨by decide +kernel, by decide +kernel, fun h => ?_⟩
  have := h (.double 0) (.double 9223372036854775808) (by decide) (by decide) (by decide +kernel)
  revert this
  decide +kernel

/-! ## Key comparison in the B+tree (tree/cell_ops.rs) -/

/-- the first key of a laid-out key list reads back, and the reader's cursor ends where the next key's layout starts -/
theorem read_first_key (v : Value) (pre rest : Bytes) (vs : List Value) (hw : v.Wf) (hn : v ≠ .null) :
    ∃ pre' : Bytes,
      pre ++ layoutKeys pre.length (v :: vs) ++ rest = pre' ++ layoutKeys pre'.length vs ++ rest ∧
      deserialize {} v.kind (pre ++ layoutKeys pre.length (v :: vs) ++ rest) pre.length = .ok (v, pre'.length) := by
  obtain ⟨bs, hs⟩ := serialize_ok_of_ne_null v hn
  have hle := le_alignUp_of_pos pre.length _ v.kind.align_pos
  generalize hat : alignUp pre.length v.kind.align = at_ at *
  have hplen : (pre ++ List.replicate (at_ - pre.length) 0).length = at_ := by
    simp only [List.length_append, List.length_replicate]; omega
  obtain ⟨bs2, hs2, hd⟩ := serialize_roundtrip v hw hn (pre ++ List.replicate (at_ - pre.length) 0)
    (layoutKeys (at_ + bs.length) vs ++ rest) pre.length (by rw [hat, hplen])
  cases hs.symm.trans hs2
  refine ⟨pre ++ List.replicate (at_ - pre.length) 0 ++ bs, ?_, ?_⟩
  · rw [layoutKeys_cons _ v vs bs hs, hat]
    have : (pre ++ List.replicate (at_ - pre.length) 0 ++ bs).length = at_ + bs.length := by
      rw [List.length_append, hplen]
    rw [this]
    simp only [List.append_assoc]
  · rw [layoutKeys_cons _ v vs bs hs, hat]
    have e : pre ++ (List.replicate (at_ - pre.length) 0 ++ bs ++ layoutKeys (at_ + bs.length) vs) ++ rest =
        pre ++ List.replicate (at_ - pre.length) 0 ++ bs ++ (layoutKeys (at_ + bs.length) vs ++ rest) := by
      simp only [List.append_assoc]
    rw [e, hd]
    simp only [List.length_append]

/-- Tree search order = value order: on two key tuples laid out as `TupleBuilder` writes them (each key at the next
    multiple of its alignment), `compare_keys` returns the column-by-column order of the key *values* — for any
    number of key columns of any kinds, wherever the keys start, whatever surrounds them. -/
theorem keyCmp_agrees_with_cmp (ks : List Kind) (tvs cvs : List Value)
    (ht : tvs.map Value.kind = ks) (hc : cvs.map Value.kind = ks)
    (hwt : ∀ v ∈ tvs, v.Wf ∧ v ≠ .null) (hwc : ∀ v ∈ cvs, v.Wf ∧ v ≠ .null)
    (tpre trest cpre crest : Bytes) :
    ∃ o, lexValues {} tvs cvs = some o ∧
      compareKeys {} ks (tpre ++ layoutKeys tpre.length tvs ++ trest) tpre.length
        (cpre ++ layoutKeys cpre.length cvs ++ crest) cpre.length = .ok o := by
  induction ks generalizing tvs cvs tpre cpre with
  | nil =>
    cases tvs <;> cases cvs <;> simp at ht hc
    exact ⟨.eq, rfl, rfl⟩
  | cons k ks ih =>
    match tvs, cvs, ht, hc with
    | t :: ts, c :: cs, ht, hc =>
      simp only [List.map_cons, List.cons.injEq] at ht hc
      obtain ⟨hkt, hts⟩ := ht
      obtain ⟨hkc, hcs⟩ := hc
      obtain ⟨hwt0, hnt⟩ := hwt t (by simp)
      obtain ⟨hwc0, hnc⟩ := hwc c (by simp)
      obtain ⟨tpre', tlay, trd⟩ := read_first_key t tpre trest ts hwt0 hnt
      obtain ⟨cpre', clay, crd⟩ := read_first_key c cpre crest cs hwc0 hnc
      have hcls : t.cls = c.cls ∧ t.cls ≠ 0 :=
        ⟨by rw [cls_eq_sample t, cls_eq_sample c, hkt, hkc], fun h0 => hnt ((cls_zero_iff t).mp h0)⟩
      obtain ⟨o, ho⟩ := Option.isSome_iff_exists.mp ((partialCmp_isSome_iff t c).mpr hcls)
      rw [hkt] at trd
      rw [hkc] at crd
      rw [compareKeys, trd]
      simp only
      rw [crd]
      simp only [ho]
      cases o with
      | eq =>
        obtain ⟨o', h1, h2⟩ := ih ts cs hts hcs (fun v hv => hwt v (by simp [hv])) (fun v hv => hwc v (by simp [hv]))
          tpre' cpre'
        refine ⟨o', by simp only [lexValues, ho, h1], ?_⟩
        rw [tlay, clay]
        exact h2
      | _ => exact ⟨_, by simp only [lexValues, ho], rfl⟩

/-- Shipped defects seen through the tree: with comparison through `f64` the BIGINT keys 2^53 and 2^53 + 1 are the
    same key (a second INSERT is a duplicate-key error, a lookup finds the wrong row); a NaN key makes the comparator
    fail ("Cannot compare null keys"). Both fixed by 57ea8a0 / 38f555e. -/
theorem key_collision_witness :
    compareKeys { numericViaF64 := true } [.bigint] (layoutKeys 0 [.bigint 9007199254740993]) 0
      (layoutKeys 0 [.bigint 9007199254740992]) 0 = .ok .eq ∧
    compareKeys {} [.bigint] (layoutKeys 0 [.bigint 9007199254740993]) 0
      (layoutKeys 0 [.bigint 9007199254740992]) 0 = .ok .gt ∧
    compareKeys { nanUnordered := true } [.double] (layoutKeys 0 [.double 9221120237041090560]) 0
      (layoutKeys 0 [.double 4607182418800017408]) 0 = .error .nullKey := by
  refine ⟨by decide +kernel, by decide +kernel, by decide +kernel⟩

/-- `MAX_VARINT_LEN`, the discriminant / `SIZE` / `ALIGN` / `is_numeric` of every `DataTypeKind`, the key offset of a
    one-value tuple and the cast matrix — evaluated out of the code on this run — are what the model assumes. -/
theorem generated_wf : Generated.valueParams = stdParams := by decide +kernel

/-- Non-vacuity of the hypotheses above. -/
example : Value.Wf (.blob [1, 2, 3]) ∧ Value.Wf (.double 9221120237041090560) ∧ Value.Wf (.int (-2147483648)) := by decide
example : Value.Safe (.bigint (-9007199254740992)) ∧ ¬ Value.Safe (.bigint 9007199254740993) ∧ Value.Safe (.double 9218868437227405312) := by decide
example : Kind.InRange .uint 4294967295 ∧ ¬ Kind.InRange .uint (-1) := by decide
example : VarInt.InI64 (-9223372036854775808) ∧ VarInt.InI64 9223372036854775807 := by decide
example : VarInt.decode (VarInt.encode (-9223372036854775808) ++ [7]) = some (-9223372036854775808, [7]) := by decide

end AxVerif.Value
