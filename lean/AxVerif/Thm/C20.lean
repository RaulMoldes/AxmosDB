/-
  C20 — The wire protocol carries every message intact and rejects garbage.
  Property theorems (helper lemmas are in Lemmas/Wire.lean).  All statements are for an arbitrary `Params` satisfying
  `Params.Wf`: `protocolVersion < 256` (what the message round trips need) and `maxMessageSize < 2^32` (what the
  framing theorems need); `generated_wf` instantiates them with the values extracted from the code on this run.
-/
import AxVerif.Lemmas.Wire
import AxVerif.Generated.Wire
namespace AxVerif.Wire
open AxVerif

/-- Every request is received exactly as sent. -/
theorem decode_encode_request (P : Params) (hP : P.Wf) (r : Request) (h : WfReq r) :
    Request.decode P (Request.encode P r) = .ok r := by
  rw [← List.append_nil (Request.encode P r)]
  exact Request.decode_encode_append P hP.1 r h []

/-- Every response is received exactly as sent — any number of rows and columns, empty strings included. -/
theorem decode_encode_response (P : Params) (hP : P.Wf) (r : Response) (h : WfResp r) :
    Response.decode P (Response.encode P r) = .ok r := by
  rw [← List.append_nil (Response.encode P r)]
  exact Response.decode_encode_append P hP.1 r h []

/-- Framing round-trip: a message within the cap, followed by anything, is read back exactly, and the stream
    is left positioned right behind it. -/
theorem frame_roundtrip (P : Params) (hP : P.Wf) (d rest : Bytes) (h : d.length ≤ P.maxMessageSize) :
    ∃ f, writeMessage P d = .ok f ∧ readMessage P (f ++ rest) = .ok (d, rest) :=
  ⟨le32 d.length ++ d, if_neg (Nat.not_lt.mpr h), readMessage_frame P hP.2 d rest h⟩

/-- Pipelining: any number of frames written one after the other are read back one after the other, exactly,
    and then the stream is at its end (reported as an I/O error by `read_exact`). -/
theorem frames_roundtrip (P : Params) (hP : P.Wf) (ds : List Bytes) (h : ∀ d ∈ ds, d.length ≤ P.maxMessageSize) :
    readAll P ((ds.map (fun d => le32 d.length ++ d)).flatten) = (ds, .io) :=
  readAllFuel_frames P hP.2 ds _ h (Nat.lt_succ_of_le (length_le_frames ds))

/-- Oversized frames are refused on both sides, before any buffer is allocated. -/
theorem frame_rejects_oversize (P : Params) (d : Bytes) (h : d.length > P.maxMessageSize) :
    writeMessage P d = .error .tooLarge :=
  if_pos h

theorem read_rejects_oversize (P : Params) (len : Nat) (s rest : Bytes)
    (ht : take32 s = some (len, rest)) (h : len > P.maxMessageSize) :
    readMessage P s = .error .tooLarge := by
  simp [readMessage, ht, h]

/-- The buffer `read_message` allocates never exceeds the cap. -/
theorem read_alloc_bounded (P : Params) (s m rest : Bytes) (h : readMessage P s = .ok (m, rest)) :
    m.length ≤ P.maxMessageSize := by
  revert h
  fun_cases readMessage P s <;> intro h
  case case4 hle _ =>  -- a whole frame within the cap
    cases h
    exact Nat.le_trans (List.length_take_le _ _) (Nat.le_of_not_lt hle)
  all_goals cases h

/-- Garbage is answered with a protocol error: empty, one-byte and wrong-version requests and responses, responses
    with an unknown status, truncated strings.  (An unknown request opcode is `unknownCommand` in the model; no
    theorem here is about it.) -/
theorem request_rejects_empty (P : Params) : Request.decode P [] = .error .invalidMessage := rfl
theorem request_rejects_short (P : Params) (v : UInt8) (h : v.toNat = P.protocolVersion) :
    Request.decode P [v] = .error .invalidMessage :=
  Request.decode_version h []
theorem request_rejects_bad_version (P : Params) (v : UInt8) (rest : Bytes) (h : v.toNat ≠ P.protocolVersion) :
    Request.decode P (v :: rest) = .error .versionMismatch :=
  if_pos h
theorem response_rejects_short (P : Params) (d : Bytes) (h : d.length < 2) :
    Response.decode P d = .error .invalidMessage := by
  match d with
  | [] | [_] => rfl
  | _ :: _ :: t => exact absurd h (Nat.not_lt.mpr (Nat.le_add_left 2 t.length))
theorem response_rejects_bad_version (P : Params) (v st : UInt8) (rest : Bytes) (h : v.toNat ≠ P.protocolVersion) :
    Response.decode P (v :: st :: rest) = .error .versionMismatch :=
  if_pos h
theorem response_rejects_unknown_status (P : Params) (v st : UInt8) (rest : Bytes)
    (hv : v.toNat = P.protocolVersion) (h : 0x0B < st.toNat) :
    Response.decode P (v :: st :: rest) = .error .unknownStatus := by
  -- `st.toNat = m + 12` falls through the twelve literal alternatives by computation
  have e : st.toNat = st.toNat - 12 + 12 := (Nat.sub_add_cancel h).symm
  rw [Response.decode_version hv, Response.decodeBody, Response.decode, e]
  rfl
theorem string_rejects_truncated (d rest : Bytes) (len : Nat)
    (ht : take32 d = some (len, rest)) (h : rest.length < len) :
    readString d = .error .invalidMessage := by
  simp [readString, ht, h]

/-- No unbounded allocation: with the capacity bound in place every `Vec::with_capacity` request made while
    decoding is at most the number of bytes received. -/
theorem decode_alloc_bounded (P : Params) (d : Bytes) :
    ∀ c ∈ Response.decodeAllocs P {} d, c ≤ d.length := by
  intro c hc
  unfold Response.decodeAllocs at hc
  split at hc
  · rename_i v st payload
    -- every request is `capReq {} n payload.length = min n payload.length`
    have hcap : ∀ n, capReq {} n payload.length ≤ (v :: st :: payload).length := fun n =>
      Nat.le_trans (Nat.min_le_right _ _) (Nat.le_add_right _ 2)
    split at hc
    · unfold rowsAllocs at hc
      split at hc
      · cases hc
      · rcases List.mem_cons.mp hc with rfl | hc
        · exact hcap _
        · split at hc
          · cases hc
          · split at hc
            · cases hc
            · rcases List.mem_cons.mp hc with rfl | hc
              · exact hcap _
              · split at hc
                · cases hc
                · rw [List.mem_singleton.mp hc]; exact hcap _
    · cases hc
  · cases hc

/-- Witness for the defect of the pinned commit: with the capacity taken from the wire, a 6-byte message
    asks for 2^32 − 1 elements. -/
theorem capUnbounded_witness :
    let P : Params := { protocolVersion := 1, maxMessageSize := 16777216 }
    ∃ d : Bytes, d.length = 6 ∧ (4294967295 ∈ Response.decodeAllocs P { capUnbounded := true } d) := by
  refine ⟨[1, 2, 255, 255, 255, 255], rfl, ?_⟩
  decide

theorem generated_wf : Params.Wf Generated.wireParams := by decide

/-- Non-vacuity: a non-trivial response (two columns, two rows, an empty string and non-ASCII text)
    meets `WfResp`. -/
example : WfResp (.rows [[0x61], [0xC3, 0xA9]] [[[], [0x62]], [[0xE2, 0x82, 0xAC], [0x63]]]) := by
  refine ⟨by decide, by decide, ?_, ?_, ?_⟩ <;> decide

end AxVerif.Wire
